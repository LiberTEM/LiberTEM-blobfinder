import BlobfinderModel.Model.Crop
/-! The slicing back-end of the crop model.  Every normalised bound of its slice assignment is a clamp
`min (max x 0) n` (`normBounds_closed`); what C13 needs of clamps is stated for one axis and used once per axis. -/
namespace Model

theorem pyIdx_some (len d v : Int) :
    pyIdx len d (some v) = (if v < 0 then max (v + len) 0 else min v len) := rfl

theorem pyIdx_none (len d : Int) : pyIdx len d none = d := rfl

theorem pyIdx_max_zero (len d v : Int) : pyIdx len d (some (max v 0)) = min (max v 0) len :=
  if_neg (by omega)

/-- Python's `a[:cut]` where `cut` is `None` unless negative. -/
theorem pySliceHi_cut (len v : Int) (hl : 0 ≤ len) :
    pySliceHi len (if v ≥ 0 then none else some v) = min (max (v + len) 0) len := by
  unfold pySliceHi
  split
  · rw [pyIdx_none]
    omega
  · rw [pyIdx_some, if_pos (by omega)]
    omega

theorem clamp_nonneg (n x : Int) (hn : 0 ≤ n) : 0 ≤ min (max x 0) n := by omega

theorem sliceLen_min_lo (lo hi n : Int) (h : hi ≤ n) : sliceLen (min lo n) hi = sliceLen lo hi := by
  unfold sliceLen
  -- `hi - min lo n = max (hi - lo) (hi - n)`, and `hi - n ≤ 0` disappears in the `max _ 0`
  rw [← Int.sub_max_sub_left, Int.max_assoc, Int.max_eq_right (Int.sub_nonpos_of_le h)]

theorem sliceLen_max_hi (lo hi z : Int) (h : z ≤ lo) : sliceLen lo (max hi z) = sliceLen lo hi := by
  unfold sliceLen
  -- likewise `max hi z - lo = max (hi - lo) (z - lo)` with `z - lo ≤ 0`
  rw [← Int.sub_max_sub_right, Int.max_assoc, Int.max_eq_right (Int.sub_nonpos_of_le h)]

/-- A slice with both bounds clamped to `[0, n]` is as long as the overlap of `[a, b)` with `[0, n)`. -/
theorem sliceLen_clamp (n a b : Int) :
    sliceLen (min (max a 0) n) (min (max b 0) n) = sliceLen (max a 0) (min b n) := by
  rw [sliceLen_min_lo _ _ _ (Int.min_le_right _ _), Int.min_max_distrib_right,
    sliceLen_max_hi _ _ _ (by omega)]

/-- One axis of the slice copy, `o` the frame coordinate of buffer cell 0: target and source slice are equally long. -/
theorem axis_len (f h o : Int) :
    sliceLen (min (max (-o) 0) h) (min (max (f - o) 0) h)
      = sliceLen (min (max o 0) f) (min (max (o + h) 0) f) := by
  rw [sliceLen_clamp, sliceLen_clamp]
  -- both sides are overlap lengths: of `[-o, f - o)` with `[0, h)`, and of the same two intervals moved by `o`
  have lo : max o 0 = max (-o) 0 + o := by omega
  have hi : min (o + h) f = min (f - o) h + o := by omega
  rw [lo, hi, sliceLen, sliceLen, Int.add_sub_add_right]

/-- Cell `y` of the buffer lies in the target slice iff its frame coordinate `o + y` lies in the frame: lower bound here,
upper bound in `axis_hi`. -/
theorem axis_lo {h o y : Int} (hy : 0 ≤ y) (hyh : y < h) : min (max (-o) 0) h ≤ y ↔ 0 ≤ o + y := by omega

theorem axis_hi {f h o y : Int} (hy : 0 ≤ y) (hyh : y < h) : y < min (max (f - o) 0) h ↔ o + y < f := by
  omega

/-- Such a cell is copied from frame coordinate `o + y`. -/
theorem axis_src (f h o y : Int) (hy : 0 ≤ y) (hyh : y < h) (h1 : 0 ≤ o + y) (h2 : o + y < f) :
    min (max o 0) f + (y - min (max (-o) 0) h) = o + y := by
  -- neither upper clip is active: `max o 0 ≤ o + y < f` and `max (-o) 0 ≤ y < h`
  rw [Int.min_eq_left (by omega), Int.min_eq_left (by omega)]
  omega

/-- The target slice is the part of the buffer whose frame coordinate is inside the frame, the source slice the part
of the frame covered by the window. -/
theorem normBounds_closed (fy fx c p0 p1 h w : Int) (hh : 0 ≤ h) (hw : 0 ≤ w) :
    normBounds fy fx c p0 p1 h w =
     { tyl := min (max (-(p0 - c)) 0) h, tyh := min (max (fy - (p0 - c)) 0) h,
       txl := min (max (-(p1 - c)) 0) w, txh := min (max (fx - (p1 - c)) 0) w,
       syl := min (max (p0 - c) 0) fy, syh := min (max (p0 - c + h) 0) fy,
       sxl := min (max (p1 - c) 0) fx, sxh := min (max (p1 - c + w) 0) fx } := by
  unfold normBounds Gen.sl_bounds pySliceLo
  simp only [pySliceHi_cut _ _ hh, pySliceHi_cut _ _ hw]
  unfold pySliceHi
  simp only [pyIdx_max_zero, Int.zero_add]
  -- what is left is linear: the arguments of the clamps, as the generated code spells them
  congr 3 <;> omega

end Model
