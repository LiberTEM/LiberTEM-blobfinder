import BlobfinderModel.Proofs.Coords
import BlobfinderModel.Proofs.Round
/-!
Geometry of one round of `_match_all` in exact arithmetic: how far a point may lie from a node of
the lattice it is matched against and still be selected (with the node's indices), and how far it
must lie to be rejected.  Exchanging the two lattice vectors exchanges the two indices and changes nothing else
(`isMatched_swap`), which gives every statement about the second index from the one about the first.
-/
namespace Model

def dot (a b : V2) : ℚ := a.1 * b.1 + a.2 * b.2

theorem lagrange (a b : V2) : det2 a b ^ 2 = norm2 a * norm2 b - dot a b ^ 2 := by
  unfold det2 norm2 dot; ring

theorem norm2_nonneg (a : V2) : 0 ≤ norm2 a := by
  unfold norm2; exact add_nonneg (mul_self_nonneg _) (mul_self_nonneg _)

theorem det2_sq_le (e b : V2) : det2 e b ^ 2 ≤ norm2 e * norm2 b := by
  rw [lagrange]; exact sub_le_self _ (sq_nonneg _)

theorem norm2_pos_of_det (a b : V2) (hd : det2 a b ≠ 0) : 0 < norm2 a ∧ 0 < norm2 b := by
  have hpos : 0 < norm2 a * norm2 b := lt_of_lt_of_le (sq_pos_of_ne_zero hd) (det2_sq_le a b)
  exact (mul_pos_iff.mp hpos).resolve_right fun h => not_lt.mpr (norm2_nonneg a) h.1

/-- the hypotheses bound each coordinate by `r`, hence the `2 r²` for the squared length -/
theorem exists_displacement (pos f : V2) (r : ℚ) (h1 : |pos.1 - f.1| ≤ r) (h2 : |pos.2 - f.2| ≤ r) :
    ∃ e : V2, pos = vadd f e ∧ norm2 e ≤ 2 * r ^ 2 := by
  refine ⟨vsub pos f, ?_, ?_⟩
  · unfold vadd vsub
    exact Prod.ext (add_sub_cancel _ _).symm (add_sub_cancel _ _).symm
  · -- each squared coordinate is at most `r²`
    have q1 := sq_le_sq' (abs_le.mp h1).1 (abs_le.mp h1).2
    have q2 := sq_le_sq' (abs_le.mp h2).1 (abs_le.mp h2).2
    unfold norm2 vsub
    linarith

/-- a point within `η` of the half-integer `i + 1/2` is at least `1/2 - η` from every integer -/
theorem half_cell_far (i : ℤ) (δ η : ℚ) (hδ : |δ| ≤ η) (k : ℤ) :
    1 / 2 - η ≤ |(i : ℚ) + 1 / 2 + δ - k| := by
  obtain ⟨hl, hr⟩ := abs_le.mp hδ
  rcases le_or_gt k i with h | h
  · have : (k : ℚ) ≤ i := Int.cast_le.mpr h
    exact le_trans (by linarith only [hl, this]) (le_abs_self _)
  · have : (i : ℚ) + 1 ≤ k := by exact_mod_cast h
    exact le_trans (by linarith only [hr, this]) (neg_le_abs _)

theorem one_le_rmax (x : ℚ) : 1 ≤ rmax 1 x := by rw [rmax_eq_max]; exact le_max_left _ _

theorem isMatched_iff (a b : V2) (tol : ℚ) (ij : V2) :
    isMatched a b tol ij = true ↔ 0 ≤ tol ∧ err2 a b ij < tol ^ 2 := by
  unfold isMatched
  rw [Bool.and_eq_true, decide_eq_true_eq, decide_eq_true_eq, sq]

/-- the right side is the error without the relaxation of `_match_all`, which only divides by `max(1, |index|) ≥ 1` -/
theorem err2_le_unscaled (a b ij : V2) :
    err2 a b ij ≤ (ij.1 - (roundHalfEven ij.1 : ℚ)) ^ 2 * norm2 a
      + (ij.2 - (roundHalfEven ij.2 : ℚ)) ^ 2 * norm2 b := by
  unfold err2
  simp only [← sq]
  exact add_le_add (div_le_self (mul_nonneg (sq_nonneg _) (norm2_nonneg a)) (one_le_rmax _))
    (div_le_self (mul_nonneg (sq_nonneg _) (norm2_nonneg b)) (one_le_rmax _))

theorem err2_ge_first (a b ij : V2) :
    (ij.1 - (roundHalfEven ij.1 : ℚ)) ^ 2 * norm2 a / rmax 1 (rabs ij.1) ≤ err2 a b ij := by
  unfold err2
  simp only [← sq]
  exact le_add_of_nonneg_right (div_nonneg (mul_nonneg (sq_nonneg _) (norm2_nonneg b))
    (le_trans zero_le_one (one_le_rmax _)))

theorem err2_exact (a b : V2) (i j : ℤ) : err2 a b ((i : ℚ), (j : ℚ)) = 0 := by
  unfold err2
  simp only [round_int, sub_self, zero_mul, zero_div, add_zero]

theorem err2_swap (a b ij : V2) : err2 b a ij.swap = err2 a b ij := by
  unfold err2
  exact add_comm _ _

theorem isMatched_swap (a b : V2) (tol : ℚ) (ij : V2) : isMatched b a tol ij.swap = isMatched a b tol ij := by
  unfold isMatched
  rw [err2_swap]

theorem isMatched_indices_swap (zero a b p : V2) (tol : ℚ) :
    isMatched b a tol ((getIndices zero b a p).getD (0, 0)) = isMatched a b tol ((getIndices zero a b p).getD (0, 0)) := by
  rw [getIndices_swap, ← isMatched_swap a b]
  cases getIndices zero a b p <;> rfl

/-- `det2 e b / det2 a b` is the shift of the first index under a displacement `e` (`indices_displaced`);
`κ ≥ 1/sin²` of the angle between `a` and `b` -/
theorem index_shift_sq_le_kappa (a b e : V2) (kappa : ℚ) (hd : det2 a b ≠ 0)
    (hk : norm2 a * norm2 b ≤ kappa * det2 a b ^ 2) :
    (det2 e b / det2 a b) ^ 2 * norm2 a ≤ kappa * norm2 e := by
  have hpos : 0 < det2 a b ^ 2 := sq_pos_of_ne_zero hd
  rw [div_pow, div_mul_eq_mul_div, div_le_iff₀ hpos]
  calc det2 e b ^ 2 * norm2 a ≤ norm2 e * norm2 b * norm2 a :=
        mul_le_mul_of_nonneg_right (det2_sq_le e b) (norm2_nonneg a)
    _ = norm2 e * (norm2 a * norm2 b) := by ring
    _ ≤ norm2 e * (kappa * det2 a b ^ 2) := mul_le_mul_of_nonneg_left hk (norm2_nonneg e)
    _ = kappa * norm2 e * det2 a b ^ 2 := by ring

/-- regularity of a pair of lattice vectors with conditioning `κ` does not depend on their order -/
theorem regular_swap {a b : V2} {kappa : ℚ} (hd : det2 a b ≠ 0) (hk : norm2 a * norm2 b ≤ kappa * det2 a b ^ 2) :
    det2 b a ≠ 0 ∧ norm2 b * norm2 a ≤ kappa * det2 b a ^ 2 := by
  rw [det2_swap b a, neg_ne_zero, neg_sq, mul_comm]
  exact ⟨hd, hk⟩

theorem index_shift_sq_le_kappa_snd (a b e : V2) (kappa : ℚ) (hd : det2 a b ≠ 0)
    (hk : norm2 a * norm2 b ≤ kappa * det2 a b ^ 2) :
    (det2 a e / det2 a b) ^ 2 * norm2 b ≤ kappa * norm2 e := by
  obtain ⟨hd', hk'⟩ := regular_swap hd hk
  have := index_shift_sq_le_kappa b a e kappa hd' hk'
  rw [det2_swap e a, det2_swap b a, neg_div_neg_eq] at this
  exact this

theorem kappa_of_angle (a b : V2) (hang : 4 * dot a b ^ 2 ≤ norm2 a * norm2 b) :
    norm2 a * norm2 b ≤ 4 / 3 * det2 a b ^ 2 := by
  rw [lagrange]; linarith

/-- for lattice vectors between 60° and 120° apart (`4 (a·b)² ≤ ‖a‖²‖b‖²`) a displacement `e` moves
the fractional index along `a` by at most `sqrt(4/3)·‖e‖/‖a‖` (stated for the squares) -/
theorem index_shift_sq_le (a b e : V2) (hd : det2 a b ≠ 0)
    (hang : 4 * dot a b ^ 2 ≤ norm2 a * norm2 b) :
    (det2 e b / det2 a b) ^ 2 * norm2 a ≤ 4 / 3 * norm2 e :=
  index_shift_sq_le_kappa a b e (4 / 3) hd (kappa_of_angle a b hang)

/-- with `index_shift_sq_le_kappa`: `n = ‖a‖²`, `B = κ‖e‖²`, `δ` the shift of the index; `4 B < n` puts `δ` below one half -/
theorem round_add_of_sq_mul_le (k : ℤ) {δ n B : ℚ} (h : δ ^ 2 * n ≤ B) (hB : 4 * B < n) (hn : 0 < n) :
    roundHalfEven ((k : ℚ) + δ) = k := by
  have hδ : δ ^ 2 * n < (1 / 2) ^ 2 * n := h.trans_lt (by linarith only [hB])
  refine round_near _ _ ?_
  rw [add_sub_cancel_left]
  exact abs_lt_of_sq_lt_sq (lt_of_mul_lt_mul_right hδ hn.le) one_half_pos.le

/-- bounds the denominator `max(1, |index|)` by which `err2` relaxes the error of an index within `eta` of `c` -/
theorem rmax_rabs_le (c δ eta : ℚ) (h : |δ| ≤ eta) : rmax 1 (rabs (c + δ)) ≤ max 1 (|c| + eta) := by
  rw [rabs_eq_abs, rmax_eq_max]
  exact max_le_max_left 1 ((abs_add_le c δ).trans (add_le_add_right h _))

end Model
