import BlobfinderModel.Proofs.Scalar
import BlobfinderModel.Model.Eval
/-! Characterising lemmas for the list primitives (`argmaxFirst`, `irange`, `flat`, sums over a block; `minOpt` is the
library's `List.min?` and `minList` its value, 0 on the empty list) and for the evaluation model (`shiftSrc`, `refine_r`,
`refineCenter`, `elevation2`, `evaluate`), through which the other files reason about the evaluation. -/
namespace Model

/-- the loop invariant of `argmaxFirst`: once `bi` is the first maximum among the first `i` entries of `l`, running `go` over the
remaining ones ends at the first maximum of `l` -/
theorem argmax_go_spec (l : List ℚ) (bi i r : ℕ) (hbi : bi < l.length)
    (hmax : ∀ j (hj : j < l.length), j < i → l[j] ≤ l[bi]) (hfirst : ∀ j (hj : j < l.length), j < bi → l[j] < l[bi])
    (hgo : argmaxFirst.go l[bi] bi i (l.drop i) = r) :
    ∃ hr : r < l.length, (∀ j (hj : j < l.length), l[j] ≤ l[r]) ∧ ∀ j (hj : j < l.length), j < r → l[j] < l[r] := by
  induction hn : l.length - i generalizing bi i with
  | zero =>
    have hi : l.length ≤ i := Nat.le_of_sub_eq_zero hn
    rw [List.drop_eq_nil_of_le hi, argmaxFirst.go] at hgo
    subst hgo
    exact ⟨hbi, fun j hj => hmax j hj (hj.trans_le hi), hfirst⟩
  | succ n ih =>
    have hi : i < l.length := Nat.lt_of_sub_eq_succ hn
    have hn' : l.length - (i + 1) = n := by omega
    rw [List.drop_eq_getElem_cons hi, argmaxFirst.go] at hgo
    split at hgo
    next hlt =>
      refine ih i (i + 1) hi (fun j hj hji => ?_) (fun j hj hji => (hmax j hj hji).trans_lt hlt) hgo hn'
      rcases Nat.lt_succ_iff_lt_or_eq.mp hji with h | rfl
      · exact (hmax j hj h).trans hlt.le
      · exact le_rfl
    next hlt =>
      refine ih bi (i + 1) hbi (fun j hj hji => ?_) hfirst hgo hn'
      rcases Nat.lt_succ_iff_lt_or_eq.mp hji with h | rfl
      · exact hmax j hj h
      · exact not_lt.mp hlt

/-- `argmaxFirst` returns a position of the maximum, and the first such position -/
theorem argmaxFirst_spec (l : List ℚ) (hne : l ≠ []) :
    ∃ hr : argmaxFirst l < l.length,
      (∀ j (hj : j < l.length), l[j] ≤ l[argmaxFirst l]) ∧
      (∀ j (hj : j < l.length), j < argmaxFirst l → l[j] < l[argmaxFirst l]) := by
  cases l with
  | nil => exact absurd rfl hne
  | cons x t =>
    refine argmax_go_spec (x :: t) 0 1 _ (Nat.zero_lt_succ _) (fun j hj hj1 => ?_) (fun j _ h => nomatch h) rfl
    obtain rfl := Nat.lt_one_iff.mp hj1
    exact le_rfl

theorem mem_irange (n k : ℤ) : k ∈ irange n ↔ 0 ≤ k ∧ k < n := by
  unfold irange
  simp only [List.mem_map, List.mem_range]
  constructor
  · rintro ⟨a, ha, rfl⟩
    exact ⟨Int.natCast_nonneg a, Int.lt_toNat.mp ha⟩
  · rintro ⟨h0, h1⟩
    exact ⟨k.toNat, by omega, Int.toNat_of_nonneg h0⟩

/-- the range of `a % n`, as the conjunction that `mem_irange`, `mem_flat` and `IsMaxAt` take -/
theorem emod_mem (a n : ℤ) (hn : 0 < n) : 0 ≤ a % n ∧ a % n < n :=
  ⟨Int.emod_nonneg a hn.ne', Int.emod_lt_of_pos a hn⟩

/-- `flat f n m` is `f` mapped over this list (`flat_eq_map`) -/
def pairsL (n m : ℤ) : List (ℤ × ℤ) := (irange n).flatMap fun y => (irange m).map fun x => (y, x)

theorem flat_eq_map (f : ℤ → ℤ → ℚ) (n m : ℤ) : flat f n m = (pairsL n m).map fun p => f p.1 p.2 := by
  unfold flat pairsL
  rw [List.map_flatMap]
  simp only [List.map_map]
  rfl

theorem mem_pairsL (n m : ℤ) (p : ℤ × ℤ) : p ∈ pairsL n m ↔ (0 ≤ p.1 ∧ p.1 < n) ∧ (0 ≤ p.2 ∧ p.2 < m) := by
  unfold pairsL
  simp only [List.mem_flatMap, List.mem_map, mem_irange]
  constructor
  · rintro ⟨y, hy, x, hx, rfl⟩; exact ⟨hy, hx⟩
  · rintro ⟨hy, hx⟩; exact ⟨p.1, hy, p.2, hx, rfl⟩

theorem forall_mem_pairsL {n m : ℤ} {P : ℤ → ℤ → Prop} (h : ∀ y x, 0 ≤ y → y < n → 0 ≤ x → x < m → P y x) :
    ∀ p ∈ pairsL n m, P p.1 p.2 := fun p hp =>
  have := (mem_pairsL n m p).mp hp
  h _ _ this.1.1 this.1.2 this.2.1 this.2.2

theorem mem_flat (f : ℤ → ℤ → ℚ) (n m : ℤ) (v : ℚ) :
    v ∈ flat f n m ↔ ∃ y x, (0 ≤ y ∧ y < n) ∧ (0 ≤ x ∧ x < m) ∧ v = f y x := by
  rw [flat_eq_map]
  simp only [List.mem_map, mem_pairsL]
  constructor
  · rintro ⟨p, ⟨hy, hx⟩, rfl⟩; exact ⟨p.1, p.2, hy, hx, rfl⟩
  · rintro ⟨y, x, hy, hx, rfl⟩; exact ⟨(y, x), ⟨hy, hx⟩, rfl⟩

theorem flat_ne_nil (f : ℤ → ℤ → ℚ) (n m : ℤ) (hn : 0 < n) (hm : 0 < m) : flat f n m ≠ [] :=
  List.ne_nil_of_mem ((mem_flat f n m _).mpr ⟨0, 0, ⟨le_rfl, hn⟩, ⟨le_rfl, hm⟩, rfl⟩)

/-- the hypothesis of the congruence lemmas (`flat_congr` … `evaluate_congr`) -/
def AgreeOn (f g : ℤ → ℤ → ℚ) (h w : ℤ) : Prop :=
  ∀ y x, 0 ≤ y → y < h → 0 ≤ x → x < w → f y x = g y x

theorem flat_congr (f g : ℤ → ℤ → ℚ) (n m : ℤ) (hag : AgreeOn f g n m) : flat f n m = flat g n m := by
  rw [flat_eq_map, flat_eq_map]
  exact List.map_congr_left (forall_mem_pairsL hag)

theorem flat_eq_range (f : ℤ → ℤ → ℚ) (n m : ℕ) :
    flat f n m = (List.range (n * m)).map fun i => f ((i / m : ℕ) : ℤ) ((i % m : ℕ) : ℤ) := by
  unfold flat irange
  simp only [Int.toNat_natCast, List.map_map]
  induction n with
  | zero => simp
  | succ k ih =>
    rw [List.range_succ, List.map_append, List.flatMap_append, ih, Nat.succ_mul, List.range_add, List.map_append]
    congr 1
    simp only [List.map_cons, List.map_nil, List.flatMap_cons, List.flatMap_nil, List.append_nil, List.map_map]
    refine List.map_congr_left fun x hx => ?_
    have hx := List.mem_range.mp hx
    simp only [Function.comp, Nat.mul_add_div (Nat.zero_lt_of_lt hx), Nat.mul_add_mod, Nat.div_eq_of_lt hx, Nat.mod_eq_of_lt hx,
      Nat.add_zero, Nat.mul_comm k m]

theorem minOpt_eq_min? (l : List ℚ) : minOpt l = l.min? := by
  cases l with
  | nil => rfl
  | cons c t => simp only [minOpt, List.min?_cons', rmin_eq_min]

theorem minOpt_eq_some_iff (l : List ℚ) (a : ℚ) : minOpt l = some a ↔ a ∈ l ∧ ∀ v ∈ l, a ≤ v := by
  rw [minOpt_eq_min?, List.min?_eq_some_iff]

theorem minOpt_eq_none_iff (l : List ℚ) : minOpt l = none ↔ l = [] := by
  rw [minOpt_eq_min?, List.min?_eq_none_iff]

theorem minOpt_congr_mem (l l' : List ℚ) (h : ∀ v, v ∈ l ↔ v ∈ l') : minOpt l = minOpt l' :=
  Option.ext fun a => by simp only [minOpt_eq_some_iff, h]

theorem minOpt_map_mono (l : List ℚ) (f : ℚ → ℚ) (hf : ∀ a ∈ l, ∀ b ∈ l, a ≤ b → f a ≤ f b) :
    minOpt (l.map f) = (minOpt l).map f := by
  cases hl : minOpt l with
  | none => obtain rfl := (minOpt_eq_none_iff l).mp hl; rfl
  | some a =>
    obtain ⟨ha, hle⟩ := (minOpt_eq_some_iff l a).mp hl
    refine (minOpt_eq_some_iff _ _).mpr ⟨List.mem_map_of_mem ha, fun v hv => ?_⟩
    obtain ⟨u, hu, rfl⟩ := List.mem_map.mp hv
    exact hf a ha u hu (hle u hu)

/-- what lets `elevation2` compare squares where the generated `Gen.peak_elevation` takes square roots -/
theorem minOpt_sq (l : List ℚ) (hl : ∀ v ∈ l, 0 ≤ v) :
    (optMax0 (minOpt l)).map (· ^ 2) = minOpt (l.map (· ^ 2)) := by
  rw [minOpt_map_mono l (· ^ 2) fun a ha b _ hab => pow_le_pow_left₀ (hl a ha) hab 2]
  cases hm : minOpt l with
  | none => rfl
  | some a =>
    have h0 : rmax 0 a = a := by rw [rmax_eq_max, max_eq_right (hl a ((minOpt_eq_some_iff l a).mp hm).1)]
    simp only [optMax0, h0]

theorem minList_eq (l : List ℚ) : minList l = (minOpt l).getD 0 := by cases l <;> rfl

theorem minList_spec (l : List ℚ) (hne : l ≠ []) : minList l ∈ l ∧ ∀ v ∈ l, minList l ≤ v := by
  refine (minOpt_eq_some_iff l _).mp ?_
  cases l with
  | nil => exact absurd rfl hne
  | cons x t => rfl

theorem minList_le (l : List ℚ) (v : ℚ) (hv : v ∈ l) : minList l ≤ v :=
  (minList_spec l (List.ne_nil_of_mem hv)).2 v hv

theorem minList_congr_mem (l l' : List ℚ) (h : ∀ v, v ∈ l ↔ v ∈ l') : minList l = minList l' := by
  rw [minList_eq, minList_eq, minOpt_congr_mem l l' h]

/-- the form in which the library's reindexing lemmas apply (transposition, the `ZMod` sums of the Fourier bridge, C01) -/
theorem lsum_irange (n : ℕ) (g : ℤ → ℚ) :
    lsum ((irange n).map g) = ∑ i ∈ Finset.range n, g (i : ℤ) := by
  rw [lsum_eq_sum, irange, Int.toNat_natCast, List.map_map]; rfl

theorem lsum_irange_single (n a : ℤ) (g : ℤ → ℚ) (ha : 0 ≤ a ∧ a < n) (h : ∀ m, 0 ≤ m → m < n → m ≠ a → g m = 0) :
    lsum ((irange n).map g) = g a := by
  unfold irange
  rw [lsum_eq_sum, List.map_map, sum_range_single _ a.toNat, if_pos (by omega)]
  · exact congrArg g (Int.toNat_of_nonneg ha.1)
  · intro k hk hka
    exact h k (Int.natCast_nonneg k) (Int.lt_toNat.mp hk) fun e => hka (by omega)

theorem lsum_nested (F : ℤ → ℤ → ℚ) (n m : ℤ) :
    lsum ((irange n).map fun y => lsum ((irange m).map fun x => F y x)) = lsum (flat F n m) := by
  simp only [lsum_eq_sum]
  unfold flat
  induction (irange n) with
  | nil => rfl
  | cons a t ih => simp only [List.map_cons, List.sum_cons, List.flatMap_cons, List.sum_append, ih]

theorem lsum_flat (f : ℤ → ℤ → ℚ) (n m : ℤ) :
    lsum (flat f n m) = ∑ y ∈ Finset.range n.toNat, ∑ x ∈ Finset.range m.toNat, f y x := by
  rw [← lsum_nested]
  exact (lsum_irange n.toNat _).trans (Finset.sum_congr rfl fun y _ => lsum_irange m.toNat _)

/-- the centre of mass is the case `v y x = y` (or `x`) -/
theorem flat_mean_mem (wgt v : ℤ → ℤ → ℚ) (n m : ℤ) (lo hi : ℚ)
    (hw : ∀ y x, 0 ≤ y → y < n → 0 ≤ x → x < m → 0 ≤ wgt y x)
    (hv : ∀ y x, 0 ≤ y → y < n → 0 ≤ x → x < m → lo ≤ v y x ∧ v y x ≤ hi) (hs : 0 < lsum (flat wgt n m)) :
    lo ≤ lsum (flat (fun y x => wgt y x * v y x) n m) / lsum (flat wgt n m) ∧
    lsum (flat (fun y x => wgt y x * v y x) n m) / lsum (flat wgt n m) ≤ hi := by
  simp only [flat_eq_map] at hs ⊢
  exact weighted_mean_mem (pairsL n m) (fun p => wgt p.1 p.2) (fun p => v p.1 p.2) lo hi (forall_mem_pairsL hw)
    (forall_mem_pairsL hv) hs

/-- `Gen.fast_corr_shift` and `Gen.full_corr_shift` are this string -/
theorem shiftSrc_ifftshift (n j : ℤ) : shiftSrc "fft.ifftshift" n j = (j + n / 2) % n := if_pos (Or.inl rfl)

/-- every shift kind is an index shift modulo `n`: what the roll invariance of the correlation map needs -/
theorem shiftSrc_eq_add (kind : String) (n : ℤ) : ∃ s, ∀ j, shiftSrc kind n j = (j + s) % n := by
  unfold shiftSrc
  split
  · exact ⟨n / 2, fun _ => rfl⟩
  · exact ⟨-(n / 2), fun _ => rfl⟩

theorem le_refine_r_iff (k r y x h w : ℤ) :
    k ≤ refine_r r y x h w ↔ k ≤ r ∧ k ≤ y ∧ k ≤ x ∧ k ≤ h - y - 1 ∧ k ≤ w - x - 1 := by
  simp only [refine_r, le_min_iff, and_assoc]

/-- `center_of_mass(cutout - cutout.min())` of an `N × N` cut-out -/
def cutoutCom (cut : ℤ → ℤ → ℚ) (N : ℤ) : ℚ × ℚ :=
  (lsum (flat (fun y x => (cut y x - minList (flat cut N N)) * (y : ℚ)) N N)
      / lsum (flat (fun y x => cut y x - minList (flat cut N N)) N N),
   lsum (flat (fun y x => (cut y x - minList (flat cut N N)) * (x : ℚ)) N N)
      / lsum (flat (fun y x => cut y x - minList (flat cut N N)) N N))

/-- `refine_center` once the radius is clipped to `r`: the map size enters only through `r` -/
def refineAt (corr : ℤ → ℤ → ℚ) (cy cx r : ℤ) : ℚ × ℚ :=
  if r ≤ 0 then ((cy : ℚ), (cx : ℚ)) else
    ((cy : ℚ) + (cutoutCom (fun y x => corr (cy - r + y) (cx - r + x)) (2 * r + 1)).1 - (r : ℚ),
     (cx : ℚ) + (cutoutCom (fun y x => corr (cy - r + y) (cx - r + x)) (2 * r + 1)).2 - (r : ℚ))

theorem refineCenter_eq (corr : ℤ → ℤ → ℚ) (h w cy cx radius : ℤ) :
    refineCenter corr h w cy cx radius = refineAt corr cy cx (refine_r radius cy cx h w) := by
  have e : ∀ c r : ℤ, c + r + 1 - (c - r) = 2 * r + 1 := fun c r => by ring
  simp only [refineCenter, refineAt, cutoutCom, refine_guard, cut_lo, cut_hi, refined_coord, decide_eq_true_eq, e]

theorem cutoutCom_congr (cut cut' : ℤ → ℤ → ℚ) (N : ℤ) (hag : AgreeOn cut cut' N N) :
    cutoutCom cut N = cutoutCom cut' N := by
  -- each of the four lists in `cutoutCom` is `flat` of a function `φ` of the cell value and the cell's position
  have e : ∀ φ : ℚ → ℤ → ℤ → ℚ, flat (fun y x => φ (cut y x) y x) N N = flat (fun y x => φ (cut' y x) y x) N N :=
    fun φ => flat_congr _ _ N N fun y x hy0 hy1 hx0 hx1 => congrArg (φ · y x) (hag y x hy0 hy1 hx0 hx1)
  unfold cutoutCom
  rw [flat_congr cut cut' N N hag, e fun v _ _ => v - minList (flat cut' N N),
    e fun v y _ => (v - minList (flat cut' N N)) * (y : ℚ), e fun v _ x => (v - minList (flat cut' N N)) * (x : ℚ)]

/-- no hypothesis on centre or radius: the clipped radius keeps the cut-out inside the map -/
theorem refineCenter_congr (corr corr' : ℤ → ℤ → ℚ) (h w cy cx radius : ℤ) (hag : AgreeOn corr corr' h w) :
    refineCenter corr h w cy cx radius = refineCenter corr' h w cy cx radius := by
  rw [refineCenter_eq, refineCenter_eq]
  obtain ⟨-, h1, h2, h3, h4⟩ := (le_refine_r_iff _ radius cy cx h w).mp le_rfl
  unfold refineAt
  rw [cutoutCom_congr _ _ _ fun y x _ _ _ _ => hag _ _ (by omega) (by omega) (by omega) (by omega)]

/-- the candidate list `cands` of `Model.elevation2`, copied from its body: `elevation2_eq_minOpt` is a definitional unfolding -/
def elevCands (corr : ℤ → ℤ → ℚ) (h w : ℤ) (py px height : ℚ) : List ℚ :=
  (irange h).flatMap fun (y : ℤ) => (irange w).filterMap fun (x : ℤ) =>
    let d2 := ((y : ℚ) - py) ^ 2 + ((x : ℚ) - px) ^ 2
    if Model.elev_rmin * Model.elev_rmin ≤ d2 then some ((height - corr y x) ^ 2 / d2) else none

theorem elevation2_eq_minOpt (corr : ℤ → ℤ → ℚ) (h w : ℤ) (py px height : ℚ) :
    elevation2 corr h w py px height = minOpt (elevCands corr h w py px height) := by
  unfold elevation2
  -- folds the `let cands` of `elevation2` into `elevCands`
  show (match elevCands corr h w py px height with | [] => none | c :: t => some (t.foldl (fun a b => rmin a b) c)) = _
  cases elevCands corr h w py px height <;> rfl

theorem mem_elevCands (corr : ℤ → ℤ → ℚ) (h w : ℤ) (py px height v : ℚ) :
    v ∈ elevCands corr h w py px height ↔
      ∃ y x : ℤ, (0 ≤ y ∧ y < h) ∧ (0 ≤ x ∧ x < w) ∧
        Model.elev_rmin * Model.elev_rmin ≤ ((y : ℚ) - py) ^ 2 + ((x : ℚ) - px) ^ 2 ∧
        v = (height - corr y x) ^ 2 / (((y : ℚ) - py) ^ 2 + ((x : ℚ) - px) ^ 2) := by
  unfold elevCands
  simp only [List.mem_flatMap, List.mem_filterMap, mem_irange, Option.ite_none_right_eq_some, Option.some.injEq]
  constructor
  · rintro ⟨y, hy, x, hx, hc, rfl⟩
    exact ⟨y, x, hy, hx, hc, rfl⟩
  · rintro ⟨y, x, hy, hx, hc, rfl⟩
    exact ⟨y, hy, x, hx, hc, rfl⟩

theorem elevation2_isSome (corr : ℤ → ℤ → ℚ) (h w : ℤ) (py px height : ℚ) :
    (elevation2 corr h w py px height).isSome = true ↔
      ∃ y x : ℤ, (0 ≤ y ∧ y < h) ∧ (0 ≤ x ∧ x < w) ∧
        Model.elev_rmin * Model.elev_rmin ≤ ((y : ℚ) - py) ^ 2 + ((x : ℚ) - px) ^ 2 := by
  rw [elevation2_eq_minOpt, ← Option.ne_none_iff_isSome, Ne, minOpt_eq_none_iff]
  constructor
  · intro hne
    obtain ⟨v, hv⟩ := List.exists_mem_of_ne_nil _ hne
    obtain ⟨y, x, hy, hx, hc, -⟩ := (mem_elevCands corr h w py px height v).mp hv
    exact ⟨y, x, hy, hx, hc⟩
  · rintro ⟨y, x, hy, hx, hc⟩
    exact List.ne_nil_of_mem ((mem_elevCands corr h w py px height _).mpr ⟨y, x, hy, hx, hc, rfl⟩)

theorem elevation2_congr (corr corr' : ℤ → ℤ → ℚ) (h w : ℤ) (py px height : ℚ) (hag : AgreeOn corr corr' h w) :
    elevation2 corr h w py px height = elevation2 corr' h w py px height := by
  rw [elevation2_eq_minOpt, elevation2_eq_minOpt]
  refine minOpt_congr_mem _ _ fun v => ?_
  simp only [mem_elevCands]
  exact exists_congr fun y => exists_congr fun x => and_congr_right fun hy => and_congr_right fun hx => by
    rw [hag y x hy.1 hy.2 hx.1 hx.2]

/-- `(y, x)` maximises the map over `[0, n) × [0, m)` -/
def IsMaxAt (corr : ℤ → ℤ → ℚ) (n m y x : ℤ) : Prop :=
  (0 ≤ y ∧ y < n) ∧ (0 ≤ x ∧ x < m) ∧ ∀ a b : ℤ, 0 ≤ a → a < n → 0 ≤ b → b < m → corr a b ≤ corr y x

/-- `evaluate_correlations` for one map once the centre is chosen -/
def evalAt (corr : ℤ → ℤ → ℚ) (h w cy cx : ℤ) : EvalOut :=
  { cy := cy, cx := cx, height := corr cy cx,
    ry := (refineCenter corr h w cy cx Model.refine_radius).1,
    rx := (refineCenter corr h w cy cx Model.refine_radius).2,
    elev2 := elevation2 corr h w (refineCenter corr h w cy cx Model.refine_radius).1
      (refineCenter corr h w cy cx Model.refine_radius).2 (corr cy cx) }

theorem evaluate_eq_evalAt (corr : ℤ → ℤ → ℚ) (h w : ℤ) :
    evaluate corr h w = evalAt corr h w (evaluate corr h w).cy (evaluate corr h w).cx := rfl

theorem evaluate_cy (corr : ℤ → ℤ → ℚ) (h w : ℤ) : (evaluate corr h w).cy = (argmaxFirst (flat corr h w) : ℤ) / w := rfl

theorem evaluate_cx (corr : ℤ → ℤ → ℚ) (h w : ℤ) : (evaluate corr h w).cx = (argmaxFirst (flat corr h w) : ℤ) % w := rfl

theorem evaluate_height (corr : ℤ → ℤ → ℚ) (h w : ℤ) :
    (evaluate corr h w).height = corr (evaluate corr h w).cy (evaluate corr h w).cx := rfl

/-- the centre that `evaluate` reports is a maximum of the map, and the first one in row-major order -/
theorem evaluate_center (corr : ℤ → ℤ → ℚ) (h w : ℤ) (hh : 0 < h) (hw : 0 < w) :
    IsMaxAt corr h w (evaluate corr h w).cy (evaluate corr h w).cx ∧
    ∀ y x : ℤ, 0 ≤ y → y < h → 0 ≤ x → x < w →
      y * w + x < (evaluate corr h w).cy * w + (evaluate corr h w).cx →
      corr y x < corr (evaluate corr h w).cy (evaluate corr h w).cx := by
  obtain ⟨n, rfl⟩ := Int.eq_ofNat_of_zero_le hh.le
  obtain ⟨m, rfl⟩ := Int.eq_ofNat_of_zero_le hw.le
  have hm : 0 < m := Int.ofNat_lt.mp hw
  obtain ⟨hr, hmax, hfirst⟩ := argmaxFirst_spec (flat corr n m) (flat_ne_nil corr n m hh hw)
  rw [evaluate_cy, evaluate_cx, ← Int.natCast_ediv, ← Int.natCast_emod]
  generalize argmaxFirst (flat corr n m) = a at hr hmax hfirst
  simp only [flat_eq_range, List.length_map, List.length_range, List.getElem_map, List.getElem_range] at hr hmax hfirst
  -- cell `(y, x)` is entry `y * m + x` of the row-major list, and entry `a` is cell `(a / m, a % m)`
  have hcell : ∀ y x : ℤ, 0 ≤ y → y < n → 0 ≤ x → x < m → corr y x ≤ corr ↑(a / m) ↑(a % m) ∧
      (y * m + x < ↑(a / m) * m + ↑(a % m) → corr y x < corr ↑(a / m) ↑(a % m)) := by
    intro y x hy0 hy1 hx0 hx1
    obtain ⟨y, rfl⟩ := Int.eq_ofNat_of_zero_le hy0
    obtain ⟨x, rfl⟩ := Int.eq_ofNat_of_zero_le hx0
    have hx : x < m := Int.ofNat_lt.mp hx1
    have hj : y * m + x < n * m :=
      calc y * m + x < y * m + m := Nat.add_lt_add_left hx _
        _ = (y + 1) * m := (Nat.succ_mul y m).symm
        _ ≤ n * m := Nat.mul_le_mul_right m (Int.ofNat_lt.mp hy1)
    have e1 : (y * m + x) / m = y := by rw [Nat.mul_comm, Nat.mul_add_div hm, Nat.div_eq_of_lt hx, Nat.add_zero]
    have e2 : (y * m + x) % m = x := by rw [Nat.mul_comm, Nat.mul_add_mod, Nat.mod_eq_of_lt hx]
    have h1 := hmax _ hj
    have h2 := hfirst _ hj
    rw [e1, e2] at h1 h2
    refine ⟨h1, fun hlt => h2 ?_⟩
    rw [← Nat.div_add_mod' a m]
    exact_mod_cast hlt
  have hcy : a / m < n := Nat.div_lt_of_lt_mul (by rw [Nat.mul_comm]; exact hr)
  have hcx : a % m < m := Nat.mod_lt a hm
  refine ⟨⟨⟨Int.natCast_nonneg _, Int.ofNat_lt.mpr hcy⟩, ⟨Int.natCast_nonneg _, Int.ofNat_lt.mpr hcx⟩, ?_⟩, ?_⟩
  · exact fun y x hy0 hy1 hx0 hx1 => (hcell y x hy0 hy1 hx0 hx1).1
  · exact fun y x hy0 hy1 hx0 hx1 => (hcell y x hy0 hy1 hx0 hx1).2

theorem evaluate_isMaxAt (corr : ℤ → ℤ → ℚ) (h w : ℤ) (hh : 0 < h) (hw : 0 < w) :
    IsMaxAt corr h w (evaluate corr h w).cy (evaluate corr h w).cx :=
  (evaluate_center corr h w hh hw).1

theorem evalAt_congr (corr corr' : ℤ → ℤ → ℚ) (h w cy cx : ℤ) (hag : AgreeOn corr corr' h w)
    (hy : 0 ≤ cy ∧ cy < h) (hx : 0 ≤ cx ∧ cx < w) : evalAt corr h w cy cx = evalAt corr' h w cy cx := by
  unfold evalAt
  rw [refineCenter_congr corr corr' h w cy cx _ hag, elevation2_congr corr corr' h w _ _ _ hag,
    hag cy cx hy.1 hy.2 hx.1 hx.2]

theorem evaluate_congr (corr corr' : ℤ → ℤ → ℚ) (h w : ℤ) (hh : 0 < h) (hw : 0 < w)
    (hag : AgreeOn corr corr' h w) : evaluate corr h w = evaluate corr' h w := by
  obtain ⟨hcy, hcx, -⟩ := evaluate_isMaxAt corr h w hh hw
  rw [evaluate_eq_evalAt corr', evaluate_cy corr', evaluate_cx corr', ← flat_congr corr corr' h w hag]
  -- the right side now has the centre of `corr`; the left side and `hcy`, `hcx` unfold to the same by `evaluate_eq_evalAt corr`
  exact evalAt_congr corr corr' h w _ _ hag hcy hcx

end Model
