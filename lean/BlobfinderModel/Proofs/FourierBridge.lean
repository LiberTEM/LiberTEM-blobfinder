import BlobfinderModel.Proofs.Fourier
import BlobfinderModel.Proofs.Eval
/-!
Bridge between the list-based correlation map of the model (`Model.corrMap`, a direct circular sum
over `Int` indices) and sums over the torus `ZMod H × ZMod W` (`corrMap_eq_sum`), in particular the
circular convolution for which the convolution theorem is proved in `Proofs/Fourier.lean`.
-/
open Finset

namespace Model

/-- an `Int`-indexed rational image read on the torus `ZMod H × ZMod W`, as complex numbers -/
def liftZ (H W : ℕ) (f : ℤ → ℤ → ℚ) : ZMod H → ZMod W → ℂ :=
  fun a b => ((f (a.val : ℤ) (b.val : ℤ) : ℚ) : ℂ)

/-- rational images are real: the form in which the theorems on `rfft2` / `irfft2` (`Proofs/Rfft.lean`) take them -/
theorem liftZ_real (H W : ℕ) (f : ℤ → ℤ → ℚ) :
    liftZ H W f = fun a b => (((f (a.val : ℤ) (b.val : ℤ) : ℚ) : ℝ) : ℂ) := by
  funext a b
  exact (Complex.ofReal_ratCast _).symm

theorem sum_range_zmod {M : Type} [AddCommMonoid M] (n : ℕ) [NeZero n] (F : ZMod n → M) :
    ∑ i ∈ Finset.range n, F (i : ZMod n) = ∑ a : ZMod n, F a :=
  Finset.sum_nbij' (fun i => (i : ZMod n)) (fun a => a.val) (fun _ _ => Finset.mem_univ _)
    (fun a _ => Finset.mem_range.mpr (ZMod.val_lt a)) (fun _ hi => ZMod.val_cast_of_lt (Finset.mem_range.mp hi))
    (fun a _ => ZMod.natCast_zmod_val a) (fun _ _ => rfl)

/-- the residue of an integer, read back as an integer, is the Python/NumPy non-negative remainder -/
theorem val_intCast_sub (n : ℕ) [NeZero n] (k : ℤ) (m : ZMod n) :
    ((((k : ZMod n) - m).val : ℕ) : ℤ) = (k - (m.val : ℤ)) % (n : ℤ) := by
  rw [← ZMod.val_intCast, Int.cast_sub, Int.cast_natCast, ZMod.natCast_zmod_val]

theorem lsum_irange_zmod (n : ℕ) [NeZero n] (k : ℤ) (F : ℤ → ℤ → ℚ) :
    lsum ((irange n).map fun m => F m ((k - m) % n)) = ∑ a : ZMod n, F a.val ((k : ZMod n) - a).val := by
  rw [lsum_irange, ← sum_range_zmod n]
  refine Finset.sum_congr rfl fun i hi => ?_
  rw [val_intCast_sub, ZMod.val_cast_of_lt (Finset.mem_range.mp hi)]

theorem corrMap_eq_sum (kind : String) (mask data : ℤ → ℤ → ℚ) (H W : ℕ) [NeZero H] [NeZero W] (y x : ℤ) :
    corrMap kind mask data H W y x = ∑ a : ZMod H, ∑ b : ZMod W, mask a.val b.val *
        data ((shiftSrc kind H y : ZMod H) - a).val ((shiftSrc kind W x : ZMod W) - b).val := by
  unfold corrMap
  rw [lsum_irange_zmod H _ fun my r => lsum ((irange W).map fun mx => mask my mx * data r ((shiftSrc kind W x - mx) % W))]
  exact Finset.sum_congr rfl fun a _ => lsum_irange_zmod W _ fun mx r => mask a.val mx * data _ r

/-- **the model's correlation map is the 2-D circular convolution on the torus, read at the
index the shift function selects** -/
theorem corrMap_eq_cconv2 (kind : String) (mask data : ℤ → ℤ → ℚ) (H W : ℕ) [NeZero H] [NeZero W]
    (y x : ℤ) :
    ((corrMap kind mask data H W y x : ℚ) : ℂ)
      = Fourier.cconv2 (liftZ H W mask) (liftZ H W data)
          ((shiftSrc kind H y : ℤ) : ZMod H) ((shiftSrc kind W x : ℤ) : ZMod W) := by
  rw [corrMap_eq_sum]
  simp only [Rat.cast_sum, Rat.cast_mul]
  -- `cconv2` on `liftZ` unfolds to the same double sum of cast products
  rfl

/-- **A-FFT reduced to the definition of the transforms**: the correlation map the model sums
directly is the inverse 2-D DFT of the product of the 2-D DFTs of mask and data, read at the
shifted index.  (That `rfft2`/`irfft2` compute these transforms, Hermitian-packed and rounded, is
what remains assumed about NumPy.) -/
theorem corrMap_eq_invDft2 (kind : String) (mask data : ℤ → ℤ → ℚ) (H W : ℕ) [NeZero H] [NeZero W]
    (y x : ℤ) :
    ((corrMap kind mask data H W y x : ℚ) : ℂ)
      = Fourier.invDft2 (fun k1 k2 => Fourier.dft2 (liftZ H W mask) k1 k2 * Fourier.dft2 (liftZ H W data) k1 k2)
          ((shiftSrc kind H y : ℤ) : ZMod H) ((shiftSrc kind W x : ℤ) : ZMod W) := by
  rw [corrMap_eq_cconv2, Fourier.cconv2_eq_invDft2]

end Model
