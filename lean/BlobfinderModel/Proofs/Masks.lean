import BlobfinderModel.Proofs.Scalar
import BlobfinderModel.Model.Masks
/-! The antialiasing ramp `max 0 (min 1 t)`, and the generated bin value of `radial_bins` as a ramp of the distance from the bin
centre: for bins at least one pixel wide it is the difference of the ramps at the two edges of the bin, which telescopes. -/
namespace Model

theorem ramp_eq (t : ℚ) : ramp t = max 0 (min 1 t) := by
  unfold ramp; rw [rmax_eq_max, rmin_eq_min]

theorem ramp_nonneg (t : ℚ) : 0 ≤ ramp t := by
  rw [ramp_eq]; exact le_max_left _ _

theorem ramp_le_one (t : ℚ) : ramp t ≤ 1 := by
  rw [ramp_eq]; exact max_le zero_le_one (min_le_left _ _)

theorem ramp_eq_zero (t : ℚ) (h : t ≤ 0) : ramp t = 0 := by
  rw [ramp_eq]; exact max_eq_left ((min_le_right _ _).trans h)

theorem ramp_eq_one (t : ℚ) (h : 1 ≤ t) : ramp t = 1 := by
  rw [ramp_eq, min_eq_left h]; exact max_eq_right zero_le_one

theorem ramp_eq_self (t : ℚ) (h0 : 0 ≤ t) (h1 : t ≤ 1) : ramp t = t := by
  rw [ramp_eq, min_eq_right h1]; exact max_eq_right h0

theorem ramp_mono (s t : ℚ) (h : s ≤ t) : ramp s ≤ ramp t := by
  rw [ramp_eq, ramp_eq]; exact max_le_max le_rfl (min_le_min le_rfl h)

theorem ramp_one_sub (t : ℚ) : ramp (1 - t) = 1 - ramp t := by
  rcases le_total t 0 with h | h
  · rw [ramp_eq_zero t h, ramp_eq_one _ ((le_sub_self_iff 1).mpr h), sub_zero]
  rcases le_total 1 t with h1 | h1
  · rw [ramp_eq_one t h1, ramp_eq_zero _ (sub_nonpos.mpr h1), sub_self]
  · rw [ramp_eq_self t h h1, ramp_eq_self _ (sub_nonneg.mpr h1) (sub_le_self 1 h)]

/-- the ramp across the edge at radius `e`, seen from distance `r`, in the form the bin values have it -/
theorem ramp_edge_eq_one (r e : ℚ) (h : e + 1 / 2 ≤ r) : ramp (r - e + 1 / 2) = 1 :=
  ramp_eq_one _ (by linarith)

theorem ramp_edge_eq_zero (r e : ℚ) (h : r ≤ e - 1 / 2) : ramp (r - e + 1 / 2) = 0 :=
  ramp_eq_zero _ (by linarith)

/-- a pixel closer than half a pixel to the centre (the one that gets the centre patch) is inside every edge at radius `≥ 1` -/
theorem ramp_edge_eq_zero_of_one_le (r e : ℚ) (hr : r < 1 / 2) (he : 1 ≤ e) : ramp (r - e + 1 / 2) = 0 :=
  ramp_edge_eq_zero r e (by linarith)

theorem bin_val_eq_ramp (w r0 r : ℚ) : Gen.bin_val w r0 r = ramp (w / 2 + 1 / 2 - |r - r0|) := by
  rw [← rabs_eq_abs]
  -- `ring`, not `rfl`: the argument may be spelled differently in the generated code (`1/2 + width/2 - diff` …)
  exact congrArg (fun t => rmax 0 (rmin 1 t)) (by ring)

theorem bin_val_nonneg (w r0 r : ℚ) : 0 ≤ Gen.bin_val w r0 r := by
  rw [bin_val_eq_ramp]; exact ramp_nonneg _

theorem bin_val_le_one (w r0 r : ℚ) : Gen.bin_val w r0 r ≤ 1 := by
  rw [bin_val_eq_ramp]; exact ramp_le_one _

/-- `e` is the inner edge of the bin, `e + w` its outer edge -/
theorem bin_val_eq_ramp_sub (w e r : ℚ) (hw : 1 ≤ w) :
    Gen.bin_val w (e + w / 2) r = ramp (r - e + 1 / 2) - ramp (r - (e + w) + 1 / 2) := by
  rw [bin_val_eq_ramp]
  -- inside the bin centre only the inner edge is active, outside it only the outer edge (`w ≥ 1`)
  rcases le_total r (e + w / 2) with h | h
  · rw [abs_of_nonpos (sub_nonpos.mpr h), ramp_edge_eq_zero r (e + w) (by linarith), sub_zero]
    congr 1; ring
  · rw [abs_of_nonneg (sub_nonneg.mpr h), ramp_edge_eq_one r e (by linarith), ← ramp_one_sub]
    congr 1; ring

end Model
