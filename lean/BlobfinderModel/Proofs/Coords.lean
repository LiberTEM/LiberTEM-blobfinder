import BlobfinderModel.Proofs.Scalar
import BlobfinderModel.Model.Lattice
/-!
Lattice coordinates: `calcCoord` (indices to position) and `getIndices` (position to indices, by Cramer's rule) are
inverse to each other for non-parallel lattice vectors, and exchanging the two vectors exchanges the two indices.
-/
namespace Model

theorem calcCoord_fst (z a b ij : V2) : (calcCoord z a b ij).1 = z.1 + ij.1 * a.1 + ij.2 * b.1 := by
  unfold calcCoord vadd smul; exact (add_assoc _ _ _).symm

theorem calcCoord_snd (z a b ij : V2) : (calcCoord z a b ij).2 = z.2 + ij.1 * a.2 + ij.2 * b.2 := by
  unfold calcCoord vadd smul; exact (add_assoc _ _ _).symm

theorem det2_swap (a b : V2) : det2 a b = -det2 b a := by unfold det2; ring

theorem getIndices_eq (zero a b p : V2) :
    getIndices zero a b p = if det2 a b = 0 then none else
      some (det2 (vsub p zero) b / det2 a b, det2 a (vsub p zero) / det2 a b) := rfl

theorem indices_displaced (zero a b e : V2) (i j : ℚ) (hd : det2 a b ≠ 0) :
    getIndices zero a b (vadd (calcCoord zero a b (i, j)) e)
      = some (i + det2 e b / det2 a b, j + det2 a e / det2 a b) := by
  rw [getIndices_eq, if_neg hd]
  -- `det2` is linear in each argument: `det2 (i a + j b + e) b = i det2 a b + det2 e b`, and likewise in the second place
  have h1 : det2 (vsub (vadd (calcCoord zero a b (i, j)) e) zero) b = i * det2 a b + det2 e b := by
    simp only [det2, vsub, vadd, calcCoord, smul]
    ring
  have h2 : det2 a (vsub (vadd (calcCoord zero a b (i, j)) e) zero) = j * det2 a b + det2 a e := by
    simp only [det2, vsub, vadd, calcCoord, smul]
    ring
  rw [h1, h2, add_div, add_div, mul_div_cancel_right₀ _ hd, mul_div_cancel_right₀ _ hd]

theorem getIndices_calcCoord (zero a b ij : V2) (hd : det2 a b ≠ 0) :
    getIndices zero a b (calcCoord zero a b ij) = some ij := by
  simpa [vadd, det2] using indices_displaced zero a b (0, 0) ij.1 ij.2 hd

theorem calcCoord_of_getIndices (zero a b p ij : V2) (h : getIndices zero a b p = some ij) :
    calcCoord zero a b ij = p := by
  rw [getIndices_eq] at h
  split at h
  · cases h
  next hd =>
    obtain rfl := Option.some.inj h
    -- Cramer's rule, componentwise: `zero + (det2 t b · a + det2 a t · b) / d = p` for `t = p - zero`, `d = det2 a b ≠ 0`
    rw [Prod.ext_iff, calcCoord_fst, calcCoord_snd]
    simp only [det2, vsub, add_assoc, div_mul_eq_mul_div, ← add_div] at hd ⊢
    constructor
    · rw [← eq_sub_iff_add_eq', div_eq_iff hd]
      ring
    · rw [← eq_sub_iff_add_eq', div_eq_iff hd]
      ring

theorem calcCoord_swap (zero a b : V2) (i j : ℚ) : calcCoord zero b a (j, i) = calcCoord zero a b (i, j) := by
  apply Prod.ext
  · rw [calcCoord_fst, calcCoord_fst, add_right_comm]
  · rw [calcCoord_snd, calcCoord_snd, add_right_comm]

theorem getIndices_swap (zero a b p : V2) : getIndices zero b a p = (getIndices zero a b p).map Prod.swap := by
  simp only [getIndices_eq, det2_swap b a, det2_swap (vsub p zero) a, det2_swap b (vsub p zero), neg_eq_zero,
    neg_div_neg_eq]
  split_ifs <;> rfl

end Model
