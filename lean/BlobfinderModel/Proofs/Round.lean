import BlobfinderModel.Proofs.Scalar
import BlobfinderModel.Model.Fastmatch
import Mathlib.Data.Rat.Floor
/-! `roundHalfEven` (NumPy's `around`) is a nearest integer. -/
namespace Model

-- `roundHalfEven x` unfolds to the nested `if` of its definition, so each branch is `if_pos` / `if_neg` on its conditions
theorem roundHalfEven_of_lt {x : ℚ} (h : x - x.floor < 1 / 2) : roundHalfEven x = x.floor :=
  if_pos h

theorem roundHalfEven_of_gt {x : ℚ} (h : 1 / 2 < x - x.floor) : roundHalfEven x = x.floor + 1 :=
  (if_neg (not_lt_of_gt h)).trans (if_pos h)

theorem roundHalfEven_of_eq {x : ℚ} (h : x - x.floor = 1 / 2) :
    roundHalfEven x = if x.floor % 2 = 0 then x.floor else x.floor + 1 :=
  (if_neg h.not_lt).trans (if_neg h.not_gt)

theorem roundHalfEven_cases (x : ℚ) :
    (roundHalfEven x = x.floor ∧ x - x.floor ≤ 1 / 2) ∨ (roundHalfEven x = x.floor + 1 ∧ 1 / 2 ≤ x - x.floor) := by
  rcases lt_trichotomy (x - x.floor) (1 / 2) with h | h | h
  · exact Or.inl ⟨roundHalfEven_of_lt h, h.le⟩
  · rw [roundHalfEven_of_eq h]
    split_ifs
    · exact Or.inl ⟨rfl, h.le⟩
    · exact Or.inr ⟨rfl, h.ge⟩
  · exact Or.inr ⟨roundHalfEven_of_gt h, h.le⟩

theorem roundHalfEven_eq_floor_iff (x : ℚ) :
    roundHalfEven x = x.floor ↔ x - x.floor < 1 / 2 ∨ (x - x.floor = 1 / 2 ∧ x.floor % 2 = 0) := by
  rcases lt_trichotomy (x - x.floor) (1 / 2) with h | h | h
  · exact iff_of_true (roundHalfEven_of_lt h) (Or.inl h)
  · rw [roundHalfEven_of_eq h]
    split_ifs with hp
    · exact iff_of_true rfl (Or.inr ⟨h, hp⟩)
    · exact iff_of_false (lt_add_one _).ne' (not_or.mpr ⟨h.not_lt, fun h' => hp h'.2⟩)
  · rw [roundHalfEven_of_gt h]
    exact iff_of_false (lt_add_one _).ne' (not_or.mpr ⟨not_lt_of_gt h, fun h' => h.ne' h'.1⟩)

theorem abs_sub_round_le (x : ℚ) : |x - (roundHalfEven x : ℚ)| ≤ 1 / 2 := by
  have h1 : (x.floor : ℚ) ≤ x := Int.floor_le x
  have h2 : x ≤ (x.floor : ℚ) + 1 := (Int.lt_floor_add_one x).le
  rcases roundHalfEven_cases x with ⟨e, h⟩ | ⟨e, h⟩
  · rw [e, abs_of_nonneg (sub_nonneg.mpr h1)]
    exact h
  · rw [e, Int.cast_add, Int.cast_one, abs_sub_comm, abs_of_nonneg (sub_nonneg.mpr h2)]
    -- `⌊x⌋ + 1 - x = 1 - (x - ⌊x⌋) ≤ 1 - 1/2`
    linarith only [h]

theorem one_le_abs_sub_add {r k : ℤ} (h : r ≠ k) (x : ℚ) : 1 ≤ |x - (r : ℚ)| + |x - k| := by
  have h1 : (1 : ℚ) ≤ |(r : ℚ) - k| := by exact_mod_cast Int.one_le_abs (sub_ne_zero.mpr h)
  rw [abs_sub_comm x]
  exact h1.trans (abs_sub_le _ x _)

theorem round_near (x : ℚ) (k : ℤ) (h : |x - k| < 1 / 2) : roundHalfEven x = k := by
  by_contra hk
  linarith [one_le_abs_sub_add hk x, abs_sub_round_le x]

/-- the rounded value is a nearest integer -/
theorem round_nearest (x : ℚ) (k : ℤ) : |x - (roundHalfEven x : ℚ)| ≤ |x - k| := by
  rcases lt_or_ge |x - k| (1 / 2) with h | h
  · rw [round_near x k h]
  · exact (abs_sub_round_le x).trans h

theorem round_int (k : ℤ) : roundHalfEven (k : ℚ) = k := round_near _ k (by simp)

end Model
