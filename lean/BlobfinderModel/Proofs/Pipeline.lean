import BlobfinderModel.Proofs.Eval
import BlobfinderModel.Model.Pipeline
/-!
Locality of the pipeline stages: each stage of the model reads only the cells of its `h × w` input
(congruence lemmas: they discharge `EvalLocal` of C09 for the composed pipelines and carry the translation / offset theorems
of C14).  Then what `reanchor` does to each output field.
-/
namespace Model

/-- the correlation map reads `data` only at indices reduced modulo the size -/
theorem corrMap_congr (kind : String) (mask data data' : ℤ → ℤ → ℚ) (h w : ℤ) (hh : 0 < h) (hw : 0 < w)
    (hag : AgreeOn data data' h w) (y x : ℤ) :
    corrMap kind mask data h w y x = corrMap kind mask data' h w y x := by
  unfold corrMap
  refine congrArg lsum (List.map_congr_left fun my _ => congrArg lsum (List.map_congr_left fun mx _ => ?_))
  rw [hag _ _ (emod_mem _ h hh).1 (emod_mem _ h hh).2 (emod_mem _ w hw).1 (emod_mem _ w hw).2]

theorem logCrop_congr (L : ℚ → ℚ) (crop crop' : ℤ → ℤ → ℚ) (h w : ℤ) (hag : AgreeOn crop crop' h w) :
    AgreeOn (logCrop L crop h w) (logCrop L crop' h w) h w := by
  intro y x hy0 hy1 hx0 hx1
  unfold logCrop
  rw [flat_congr crop crop' h w hag, hag y x hy0 hy1 hx0 hx1]

theorem reanchor_cy (e : EvalOut) (p0 p1 c : ℤ) : (reanchor e p0 p1 c).cy = e.cy + p0 - c := rfl

theorem reanchor_cx (e : EvalOut) (p0 p1 c : ℤ) : (reanchor e p0 p1 c).cx = e.cx + p1 - c := rfl

/-- the refined position moves by the same integer `p − c` as the centre: `Gen.shift 0 p c` is `0 + p − c` -/
theorem reanchor_ry (e : EvalOut) (p0 p1 c : ℤ) : (reanchor e p0 p1 c).ry = e.ry + ((p0 - c : ℤ) : ℚ) := by
  simp only [reanchor, Gen.shift, zero_add]

theorem reanchor_rx (e : EvalOut) (p0 p1 c : ℤ) : (reanchor e p0 p1 c).rx = e.rx + ((p1 - c : ℤ) : ℚ) := by
  simp only [reanchor, Gen.shift, zero_add]

theorem reanchor_height (e : EvalOut) (p0 p1 c : ℤ) : (reanchor e p0 p1 c).height = e.height := rfl

theorem reanchor_elev2 (e : EvalOut) (p0 p1 c : ℤ) : (reanchor e p0 p1 c).elev2 = e.elev2 := rfl

theorem reanchor_ry_sub_cy (e : EvalOut) (p0 p1 c : ℤ) :
    (reanchor e p0 p1 c).ry - ((reanchor e p0 p1 c).cy : ℚ) = e.ry - (e.cy : ℚ) := by
  rw [reanchor_ry, reanchor_cy]
  push_cast
  ring

theorem reanchor_rx_sub_cx (e : EvalOut) (p0 p1 c : ℤ) :
    (reanchor e p0 p1 c).rx - ((reanchor e p0 p1 c).cx : ℚ) = e.rx - (e.cx : ℚ) := by
  rw [reanchor_rx, reanchor_cx]
  push_cast
  ring

/-- an evaluation exact at the window position `(qy, qx)` is, re-anchored, exact at the frame position `p − c + q`; bundled as the
exactness theorems of C01 state it -/
theorem reanchor_exact {e : EvalOut} (p0 p1 c : ℤ) {qy qx : ℤ} (h : e.cy = qy ∧ e.cx = qx ∧ e.ry = (qy : ℚ) ∧ e.rx = (qx : ℚ)) :
    (reanchor e p0 p1 c).cy = p0 - c + qy ∧ (reanchor e p0 p1 c).cx = p1 - c + qx ∧
    (reanchor e p0 p1 c).ry = ((p0 - c + qy : ℤ) : ℚ) ∧ (reanchor e p0 p1 c).rx = ((p1 - c + qx : ℤ) : ℚ) := by
  obtain ⟨h1, h2, h3, h4⟩ := h
  rw [reanchor_cy, reanchor_cx, reanchor_ry, reanchor_rx, h1, h2, h3, h4]
  exact ⟨by ring, by ring, by push_cast; ring, by push_cast; ring⟩

/-- the statements of C14 bind the two results with `let`, hence the two equations instead of the results themselves -/
theorem reanchor_translate {e e' : EvalOut} (ev ev' : EvalOut) (p0 p1 t0 t1 c : ℤ) (hev : ev' = ev)
    (he : e = reanchor ev p0 p1 c) (he' : e' = reanchor ev' (p0 + t0) (p1 + t1) c) :
    e'.cy = e.cy + t0 ∧ e'.cx = e.cx + t1 ∧ e'.ry = e.ry + t0 ∧ e'.rx = e.rx + t1 ∧
    e'.height = e.height ∧ e'.elev2 = e.elev2 := by
  subst hev he he'
  refine ⟨?_, ?_, ?_, ?_, rfl, rfl⟩
  · rw [reanchor_cy, reanchor_cy]; ring
  · rw [reanchor_cx, reanchor_cx]; ring
  · rw [reanchor_ry, reanchor_ry]
    push_cast
    ring
  · rw [reanchor_rx, reanchor_rx]
    push_cast
    ring

theorem fastPeak_eq (L : ℚ → ℚ) (mask frame : ℤ → ℤ → ℚ) (fy fx c : ℤ) (p : ℤ × ℤ) :
    fastPeak L mask frame fy fx c p
      = reanchor (fastEval L mask c (fun y x => cropPixel frame fy fx c p.1 p.2 y x)) p.1 p.2 c := rfl

theorem fullPeak_eq (L : ℚ → ℚ) (mask frame : ℤ → ℤ → ℚ) (fy fx c : ℤ) (p : ℤ × ℤ) :
    fullPeak L mask frame fy fx c p
      = reanchor (fullEval c (fun y x => cropPixel (fullCorr L mask frame fy fx) fy fx c p.1 p.2 y x)) p.1 p.2 c := rfl

theorem fastEval_congr (L : ℚ → ℚ) (mask : ℤ → ℤ → ℚ) (c : ℕ) (hc : 0 < c) (crop crop' : ℤ → ℤ → ℚ)
    (hag : AgreeOn crop crop' (2 * c) (2 * c)) : fastEval L mask c crop = fastEval L mask c crop' :=
  have h2c : (0 : ℤ) < 2 * c := by omega
  evaluate_congr _ _ _ _ h2c h2c fun y x _ _ _ _ =>
    corrMap_congr _ mask _ _ _ _ h2c h2c (logCrop_congr L crop crop' _ _ hag) y x

theorem fullEval_congr (c : ℕ) (hc : 0 < c) (crop crop' : ℤ → ℤ → ℚ)
    (hag : AgreeOn crop crop' (2 * c) (2 * c)) : fullEval c crop = fullEval c crop' :=
  have h2c : (0 : ℤ) < 2 * c := by omega
  evaluate_congr _ _ _ _ h2c h2c hag

end Model
