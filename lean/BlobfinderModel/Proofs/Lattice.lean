import BlobfinderModel.Proofs.Scalar
import BlobfinderModel.Model.Fastmatch
import Mathlib.Tactic.LinearCombination
/-!
Weighted least squares with design `[1, i, j]` (C06, C20, C05, C12): sums over observation lists, the
normal equations in matrix form (`Normal.Solves`), Cramer's rule as their solution -- the only one at rank 3 --, and
the fit of an affine combination of two target columns over one design (`normalEqs_affine`, `solveNormal_affine`).
Optimality of a solution of the normal equations is `fit_energy` (Proofs/Noise.lean).
-/
namespace Model

/-- `g = w, w i, w j` gives the three sums of `NormalEqs` -/
theorem lsum_resid (g : Obs → ℚ) (z al be : ℚ) (l : List Obs) :
    lsum (l.map fun o => g o * resid z al be o)
      = lsum (l.map fun o => g o * o.t)
        - (z * lsum (l.map g) + al * lsum (l.map fun o => g o * o.i) + be * lsum (l.map fun o => g o * o.j)) := by
  induction l with
  | nil => simp only [List.map_nil, lsum_nil, mul_zero, add_zero, sub_zero]
  | cons o t ih =>
    simp only [List.map_cons, lsum_cons, ih]
    unfold resid
    ring

/-- `N (z, α, β)ᵀ = T`: the normal equations in terms of the nine sums -/
def Normal.Solves (n : Normal) (z al be : ℚ) : Prop :=
  n.st = z * n.s1 + al * n.si + be * n.sj ∧
  n.sit = z * n.si + al * n.sii + be * n.sij ∧
  n.sjt = z * n.sj + al * n.sij + be * n.sjj

theorem normalEqs_iff (l : List Obs) (z al be : ℚ) : NormalEqs z al be l ↔ (normalOf l).Solves z al be := by
  -- `lsum_resid` at `g = w j` gives the sum of `w j i`, where `normalOf` has `w i j`
  have e : (fun o : Obs => o.w * o.j * o.i) = fun o => o.w * o.i * o.j := funext fun o => mul_right_comm ..
  simp only [NormalEqs, Normal.Solves, normalOf, lsum_resid, sub_eq_zero, e]

theorem solveNormal_eq_some_iff (n : Normal) (z al be : ℚ) :
    solveNormal n = some (z, al, be) ↔ n.det ≠ 0 ∧ n.Solves z al be := by
  unfold solveNormal
  by_cases hd : n.det = 0
  · simp [hd]
  simp only [hd, if_false, Option.some.injEq, Prod.mk.injEq, ne_eq, not_false_iff, true_and, Normal.Solves]
  constructor
  · -- `N · (adj N · T) = det N · T` (Laplace expansion)
    rintro ⟨rfl, rfl, rfl⟩
    simp only [div_mul_eq_mul_div, ← add_div, eq_div_iff hd]
    unfold Normal.det det3
    refine ⟨?_, ?_, ?_⟩ <;> ring
  · -- `adj N · T = det N · p` when `T = N p` (Cramer)
    rintro ⟨h1, h2, h3⟩
    simp only [div_eq_iff hd, h1, h2, h3]
    unfold Normal.det det3
    refine ⟨?_, ?_, ?_⟩ <;> ring

theorem solveNormal_normalOf (l : List Obs) (z al be : ℚ) :
    solveNormal (normalOf l) = some (z, al, be) ↔ (normalOf l).det ≠ 0 ∧ NormalEqs z al be l := by
  rw [solveNormal_eq_some_iff, normalEqs_iff]

theorem solveNormal_eq_none_iff (n : Normal) : solveNormal n = none ↔ n.det = 0 := by
  unfold solveNormal
  by_cases hd : n.det = 0 <;> simp [hd]

/-- **Exact recovery**: if every observation is reproduced exactly by `(z, α, β)` and the design has
rank 3, the fit returns `(z, α, β)`. -/
theorem solve_exact (l : List Obs) (z al be : ℚ) (hres : ∀ o ∈ l, resid z al be o = 0)
    (hd : (normalOf l).det ≠ 0) : solveNormal (normalOf l) = some (z, al, be) := by
  refine (solveNormal_normalOf ..).mpr ⟨hd, ?_, ?_, ?_⟩ <;>
    exact lsum_map_eq_zero _ _ fun o ho => by rw [hres o ho, mul_zero]

/-- observations over a common base list: index, weight and target as functions of the element -/
def obsOf {β : Type} (base : List β) (i j w t : β → ℚ) : List Obs := base.map fun e => ⟨i e, j e, w e, t e⟩

theorem det_indep_t {β : Type} (base : List β) (i j w t t' : β → ℚ) :
    (normalOf (obsOf base i j w t)).det = (normalOf (obsOf base i j w t')).det := by
  unfold obsOf normalOf Normal.det
  simp only [List.map_map, Function.comp_def]

theorem lsum_map_lin {β : Type} (base : List β) (g f1 f2 : β → ℚ) (p q : ℚ) :
    lsum (base.map fun e => g e * (p * f1 e + q * f2 e))
      = p * lsum (base.map fun e => g e * f1 e) + q * lsum (base.map fun e => g e * f2 e) := by
  induction base with
  | nil => simp only [List.map_nil, lsum_nil, mul_zero, add_zero]
  | cons e t ih => simp only [List.map_cons, lsum_cons, ih]; ring

theorem normalEqs_affine {β : Type} (base : List β) (i j w ty tx : β → ℚ) {zy ay by_ zx ax bx : ℚ} (p q c : ℚ)
    (hy : NormalEqs zy ay by_ (obsOf base i j w ty)) (hx : NormalEqs zx ax bx (obsOf base i j w tx)) :
    NormalEqs (p * zy + q * zx + c) (p * ay + q * ax) (p * by_ + q * bx)
      (obsOf base i j w fun e => p * ty e + q * tx e + c) := by
  -- observation by observation the residual is the same linear form `p · + q ·` of the two residuals (the constant
  -- cancels), and sums are linear
  have e : ∀ i j w ty tx : ℚ,
      resid (p * zy + q * zx + c) (p * ay + q * ax) (p * by_ + q * bx) ⟨i, j, w, p * ty + q * tx + c⟩
        = p * resid zy ay by_ ⟨i, j, w, ty⟩ + q * resid zx ax bx ⟨i, j, w, tx⟩ := by
    intros
    unfold resid
    ring
  unfold NormalEqs obsOf at hy hx ⊢
  simp only [List.map_map, Function.comp_def] at hy hx ⊢
  simp only [e, lsum_map_lin, hy, hx, mul_zero, add_zero, and_self]

theorem solveNormal_affine {β : Type} (base : List β) (i j w ty tx : β → ℚ) (p q c : ℚ) :
    solveNormal (normalOf (obsOf base i j w (fun e => p * ty e + q * tx e + c)))
      = match solveNormal (normalOf (obsOf base i j w ty)), solveNormal (normalOf (obsOf base i j w tx)) with
        | some (zy, ay, by_), some (zx, ax, bx) => some (p * zy + q * zx + c, p * ay + q * ax, p * by_ + q * bx)
        | _, _ => none := by
  -- the rank does not depend on the target column; at rank 3 the same form of the two fits solves the normal
  -- equations (`normalEqs_affine`) and is the only solution
  rcases hy : solveNormal (normalOf (obsOf base i j w ty)) with _ | ⟨zy, ay, by_⟩
  · rw [solveNormal_eq_none_iff, det_indep_t base i j w _ ty, ← solveNormal_eq_none_iff, hy]
  rcases hx : solveNormal (normalOf (obsOf base i j w tx)) with _ | ⟨zx, ax, bx⟩
  · rw [solveNormal_eq_none_iff, det_indep_t base i j w _ tx, ← solveNormal_eq_none_iff, hx]
  obtain ⟨hdy, hNy⟩ := (solveNormal_normalOf ..).mp hy
  exact (solveNormal_normalOf ..).mpr ⟨(det_indep_t base i j w _ ty).trans_ne hdy,
    normalEqs_affine base i j w ty tx p q c hNy ((solveNormal_normalOf ..).mp hx).2⟩

theorem weightedOptimize_eq_some_iff (peaks : List Peak) (m : List Bool) (idx : List (ℤ × ℤ)) (z a b : V2) :
    weightedOptimize peaks m idx = some (z, a, b) ↔
      solveNormal (normalOf (obsFor peaks m idx (·.1))) = some (z.1, a.1, b.1) ∧
      solveNormal (normalOf (obsFor peaks m idx (·.2))) = some (z.2, a.2, b.2) := by
  unfold weightedOptimize
  rcases solveNormal (normalOf (obsFor peaks m idx (·.1))) with _ | ⟨zy, ay, by_⟩
  · simp only [reduceCtorEq, false_and]
  rcases solveNormal (normalOf (obsFor peaks m idx (·.2))) with _ | ⟨zx, ax, bx⟩
  · simp only [reduceCtorEq, and_false]
  constructor
  · rintro ⟨⟩
    exact ⟨rfl, rfl⟩
  · rintro ⟨hy, hx⟩
    cases hy
    cases hx
    rfl

theorem weightedOptimize_normalEqs {peaks : List Peak} {m : List Bool} {idx : List (ℤ × ℤ)} {z a b : V2}
    (h : weightedOptimize peaks m idx = some (z, a, b)) :
    NormalEqs z.1 a.1 b.1 (obsFor peaks m idx (·.1)) ∧ NormalEqs z.2 a.2 b.2 (obsFor peaks m idx (·.2)) := by
  obtain ⟨hy, hx⟩ := (weightedOptimize_eq_some_iff ..).mp h
  exact ⟨((solveNormal_normalOf ..).mp hy).2, ((solveNormal_normalOf ..).mp hx).2⟩

end Model
