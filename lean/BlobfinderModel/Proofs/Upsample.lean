import BlobfinderModel.Gen.Eval
import Mathlib.Data.Rat.Floor
import Mathlib.Tactic.Ring
/-!
The constants of the upsampling refinement are written in the source with `np.ceil`, `np.fix` on
floats; here they are in integer arithmetic (`/` is floor division), which is what `omega` reads.
-/
namespace Model

theorem floor_half (n : ℤ) : ((n : ℚ) / 2).floor = n / 2 :=
  Rat.floor_intCast_div_natCast n 2

theorem ceil_half (n : ℤ) : ((n : ℚ) / 2).ceil = -(-n / 2) := by
  rw [Rat.ceil_eq_neg_floor_neg, ← neg_div, ← Int.cast_neg, floor_half]

/-- `np.ceil(us * 1.5)` -/
theorem us_region_eq (us : ℤ) : Gen.us_region us = -(-(3 * us) / 2) := by
  rw [Gen.us_region, show ((us : ℤ) : ℚ) * ((3 : ℚ) / 2) = ((3 * us : ℤ) : ℚ) / 2 by push_cast; ring, ceil_half]

/-- `np.fix(region / 2)` of a non-negative region size -/
theorem us_dftshift_eq (R : ℤ) (hR : 0 ≤ R) : Gen.us_dftshift R = R / 2 := by
  have h : (0 : ℚ) ≤ (R : ℚ) / 2 := div_nonneg (Int.cast_nonneg hR) zero_le_two
  rw [Gen.us_dftshift, if_neg h.not_gt, floor_half]

/-- `np.ceil(n / 2)` -/
theorem us_corr_center_eq (n : ℤ) : Gen.us_corr_center n = n - n / 2 := by
  rw [Gen.us_corr_center, ceil_half]; omega

end Model
