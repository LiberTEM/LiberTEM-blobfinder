import BlobfinderModel.Proofs.Rank
/-!
How noise in the observed positions propagates through the weighted least-squares fit:
energy identity at the optimum, a Cauchy–Schwarz inequality for the Gram (normal) matrix, and the
leverage of an observation; the resulting bounds on the fitted lattice are `C06.noise_propagation`, `C06.fitted_node_error`.
-/
namespace Model

/-- `(vᵀ adj(N) v)(xᵀ N x) - det N · (x·v)² = yᵀ N y` with `y = v × N x`, for every symmetric `N` -/
theorem gram_lagrange (n : Normal) (x1 x2 x3 v1 v2 v3 : ℚ) :
    n.adjq v1 v2 v3 * n.quad x1 x2 x3 - n.det * (x1 * v1 + x2 * v2 + x3 * v3) ^ 2
      = n.quad
          (v2 * (n.sj * x1 + n.sij * x2 + n.sjj * x3) - v3 * (n.si * x1 + n.sii * x2 + n.sij * x3))
          (v3 * (n.s1 * x1 + n.si * x2 + n.sj * x3) - v1 * (n.sj * x1 + n.sij * x2 + n.sjj * x3))
          (v1 * (n.si * x1 + n.sii * x2 + n.sij * x3) - v2 * (n.s1 * x1 + n.si * x2 + n.sj * x3)) := by
  unfold Normal.adjq Normal.quad Normal.det det3
  ring

/-- **Cauchy–Schwarz for the normal matrix** `N = Σ w u uᵀ` (non-negative weights):
`det N · (x·v)² ≤ (vᵀ adj(N) v) · (xᵀ N x)` for all `x`, `v` — the division-free form of
`(x·v)² ≤ (vᵀ N⁻¹ v)(xᵀ N x)`, valid for singular `N` too. -/
theorem gram_cauchy (l : List Obs) (hw : ∀ o ∈ l, 0 ≤ o.w) (x1 x2 x3 v1 v2 v3 : ℚ) :
    (normalOf l).det * (x1 * v1 + x2 * v2 + x3 * v3) ^ 2
      ≤ (normalOf l).adjq v1 v2 v3 * (normalOf l).quad x1 x2 x3 := by
  rw [← sub_nonneg, gram_lagrange]
  exact quad_nonneg l hw _ _ _

/-- the objective around any `(z', α', β')`: value there, the sums of `NormalEqs` as linear term, the form of `N` as quadratic
term; `fit_energy` is the case where the linear term vanishes -/
theorem wss_expand (z al be z' al' be' : ℚ) (l : List Obs) :
    wss z al be l = wss z' al' be' l
      - 2 * ((z - z') * lsum (l.map fun o => o.w * resid z' al' be' o)
           + (al - al') * lsum (l.map fun o => o.w * o.i * resid z' al' be' o)
           + (be - be') * lsum (l.map fun o => o.w * o.j * resid z' al' be' o))
      + (normalOf l).quad (z - z') (al - al') (be - be') := by
  rw [quad_normalOf]
  unfold wss
  induction l with
  | nil => simp [lsum_nil]
  | cons o t ih =>
    simp only [List.map_cons, lsum_cons, ih]
    unfold resid
    ring

/-- **energy identity at the optimum**: for a solution of the normal equations the objective at any
other parameters exceeds the optimum by the quadratic form of the parameter difference -/
theorem fit_energy (l : List Obs) (z' al' be' : ℚ) (hN : NormalEqs z' al' be' l) (z al be : ℚ) :
    wss z al be l = wss z' al' be' l + (normalOf l).quad (z - z') (al - al') (be - be') := by
  obtain ⟨h1, h2, h3⟩ := hN
  rw [wss_expand z al be z' al' be', h1, h2, h3]
  ring

theorem wss_nonneg (l : List Obs) (hw : ∀ o ∈ l, 0 ≤ o.w) (z al be : ℚ) : 0 ≤ wss z al be l :=
  lsum_map_nonneg l _ fun o ho => mul_nonneg (hw o ho) (sq_nonneg _)

theorem wss_le_of_noise (l : List Obs) (hw : ∀ o ∈ l, 0 ≤ o.w) (z al be eps : ℚ)
    (hn : ∀ o ∈ l, |resid z al be o| ≤ eps) : wss z al be l ≤ eps ^ 2 * (normalOf l).s1 := by
  unfold wss normalOf
  rw [← lsum_map_mul_left]
  refine lsum_map_le l _ _ fun o ho => ?_
  rw [mul_comm (eps ^ 2)]
  exact mul_le_mul_of_nonneg_left (sq_le_sq' (neg_le_of_abs_le (hn o ho)) (le_of_abs_le (hn o ho))) (hw o ho)

/-- **leverage ≤ 1**: for an observation of the list, `w · vᵀ adj(N) v ≤ det N` with its own `v = (1, i, j)` -/
theorem leverage_le (l : List Obs) (hw : ∀ o ∈ l, 0 ≤ o.w) (o : Obs) (ho : o ∈ l) :
    o.w * (normalOf l).adjq 1 o.i o.j ≤ (normalOf l).det := by
  obtain ⟨s, t, rfl⟩ := List.append_of_mem ho
  rw [normalOf_perm (List.perm_middle : (s ++ o :: t).Perm (o :: (s ++ t))), normalOf_cons,
    Normal.det_add, Normal.adjq_add]
  have h3 := det_nonneg (s ++ t) fun p hp => hw p (((List.sublist_cons_self o t).append_left s).subset hp)
  -- `u × u = 0`: the observation adds nothing to its own adjugate form
  have z : (normalOf (s ++ t)).quad (o.i * o.j - o.j * o.i) (o.j * 1 - o.j) (o.i - o.i * 1) = 0 := by
    unfold Normal.quad
    ring
  rw [z, mul_zero, add_zero]
  exact le_add_of_nonneg_left h3

end Model
