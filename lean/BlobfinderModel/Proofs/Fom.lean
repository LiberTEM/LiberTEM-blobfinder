import Mathlib.Analysis.Real.Sqrt
import Mathlib.Tactic.Ring
import Mathlib.Tactic.Linarith
/-!
The figure of merit by which `FullMatcher._find_best_vector_match` ranks candidate matches: `fomWritten` transcribes the source
expression by hand (`C12.text_pins_fom` pins the text, `Gen.fom_body`, it was transcribed from), `fomClosed` is its square-root
free form, and `fom_full_ge_sublattice` says when the full lattice `(a, b)` ranks at least as high as the sublattice `(2a, b)`.
-/
namespace Model
open Real

/-- `fom` as written: `S` = sum of the elevations of the matched peaks -/
noncomputable def fomWritten (S a0 a1 b0 b1 : ℝ) : ℝ :=
  let na := sqrt (a0 * a0 + a1 * a1)
  let nb := sqrt (b0 * b0 + b1 * b1)
  S ^ 2 * (|a0 * b1 - a1 * b0| / (na * nb)) * (na * nb / (na ^ 2 + nb ^ 2))

/-- `fomWritten` without the square roots; equal to it for non-zero vectors (`fomWritten_eq_fomClosed`) -/
noncomputable def fomClosed (S a0 a1 b0 b1 : ℝ) : ℝ :=
  S ^ 2 * |a0 * b1 - a1 * b0| / (a0 * a0 + a1 * a1 + (b0 * b0 + b1 * b1))

theorem fomWritten_eq_fomClosed (S a0 a1 b0 b1 : ℝ) (ha : 0 < a0 * a0 + a1 * a1) (hb : 0 < b0 * b0 + b1 * b1) :
    fomWritten S a0 a1 b0 b1 = fomClosed S a0 a1 b0 b1 := by
  unfold fomWritten fomClosed
  -- the norms `p`, `q` cancel: `(|d| / (p q)) (p q / (p² + q²)) = |d| / (p² + q²)` as `p q ≠ 0`
  simp only [sq_sqrt ha.le, sq_sqrt hb.le]
  rw [mul_assoc, div_mul_div_comm, mul_comm |a0 * b1 - a1 * b0|,
    mul_div_mul_left _ _ (mul_pos (sqrt_pos.mpr ha) (sqrt_pos.mpr hb)).ne', mul_div_assoc]

theorem fomClosed_nonneg (S a0 a1 b0 b1 : ℝ) (ha : 0 < a0 * a0 + a1 * a1) (hb : 0 < b0 * b0 + b1 * b1) :
    0 ≤ fomClosed S a0 a1 b0 b1 := by
  unfold fomClosed
  have := add_pos ha hb
  positivity

theorem fom_full_ge_sublattice (S s a0 a1 b0 b1 : ℝ) (ha : 0 < a0 * a0 + a1 * a1)
    (hb : 0 < b0 * b0 + b1 * b1) (hs : 2 * s ^ 2 ≤ S ^ 2) :
    fomClosed s (2 * a0) (2 * a1) b0 b1 ≤ fomClosed S a0 a1 b0 b1 := by
  unfold fomClosed
  -- the numerator at most doubles (`|det(2a, b)| = 2 |det(a, b)|`) and `2 s² ≤ S²`; the denominator can only grow
  have e : 2 * a0 * b1 - 2 * a1 * b0 = 2 * (a0 * b1 - a1 * b0) := by ring
  rw [e, abs_mul, abs_two, ← mul_assoc, mul_comm (s ^ 2) 2]
  exact div_le_div₀ (mul_nonneg (sq_nonneg S) (abs_nonneg _)) (mul_le_mul_of_nonneg_right hs (abs_nonneg _))
    (add_pos ha hb) (by linarith)

end Model
