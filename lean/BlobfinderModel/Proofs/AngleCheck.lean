import Mathlib.Analysis.SpecialFunctions.Trigonometric.Basic
/-!
The angle test of `FullMatcher.check` as written is `min_angle < |φ₁ - φ₂| % π < π - min_angle`.  Here: the range of
`x % π` (`modPi_range`) and the band in terms of `sin²` (`sin_sq_gt_iff`), which is how the model states the test
(`C12.check_angle_bridge`).
-/
namespace Model
open Real

/-- Python's `x % π` for real `x` -/
noncomputable def modPi (x : ℝ) : ℝ := x - π * ⌊x / π⌋

theorem modPi_range (x : ℝ) : 0 ≤ modPi x ∧ modPi x < π := by
  unfold modPi
  rw [mul_comm]
  exact ⟨Int.sub_floor_div_mul_nonneg x Real.pi_pos, Int.sub_floor_div_mul_lt x Real.pi_pos⟩

theorem sin_sq_modPi (x : ℝ) : sin (modPi x) ^ 2 = sin x ^ 2 := by
  unfold modPi
  rw [mul_comm π, Real.sin_sub_int_mul_pi, mul_pow]
  have h : ((-1 : ℝ) ^ ⌊x / π⌋) ^ 2 = 1 := by
    rw [sq, ← zpow_add₀ (by norm_num : (-1 : ℝ) ≠ 0)]
    exact Even.neg_one_zpow ⟨_, rfl⟩
  rw [h, one_mul]

theorem sin_sq_gt_iff (r lim : ℝ) (hr0 : 0 ≤ r) (hr1 : r < π) (hl0 : 0 ≤ lim) (hl1 : lim ≤ π / 2) :
    sin lim ^ 2 < sin r ^ 2 ↔ lim < r ∧ r < π - lim := by
  have hp := Real.pi_pos
  have hl : lim ∈ Set.Icc 0 π := ⟨hl0, by linarith⟩
  have hr : r ∈ Set.Icc 0 π := ⟨hr0, hr1.le⟩
  have hl' : π - lim ∈ Set.Icc 0 π := ⟨sub_nonneg.mpr hl.2, sub_le_self π hl0⟩
  -- `sin² lim < sin² r ↔ |cos r| < cos lim ↔ cos (π - lim) < cos r < cos lim`; `cos` decreases strictly on `[0, π]`
  rw [sin_sq, sin_sq, sub_lt_sub_iff_left, sq_lt_sq,
    abs_of_nonneg (cos_nonneg_of_mem_Icc ⟨by linarith, hl1⟩), abs_lt, ← cos_pi_sub,
    strictAntiOn_cos.lt_iff_gt hl' hr, strictAntiOn_cos.lt_iff_gt hr hl, and_comm]

theorem sin_sq_abs (x : ℝ) : sin |x| ^ 2 = sin x ^ 2 := by
  rcases abs_cases x with ⟨h, _⟩ | ⟨h, _⟩
  · rw [h]
  · rw [h, Real.sin_neg, neg_sq]

end Model
