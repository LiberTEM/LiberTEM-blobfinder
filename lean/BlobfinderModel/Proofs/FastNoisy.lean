import BlobfinderModel.Proofs.FastExact
import BlobfinderModel.Properties.C06
/-!
The two rounds of the fast match with noisy peaks: shape of a valid result, error of the first fit.
-/
namespace Model

/-- **anatomy of a valid fast match**: the start was regular, round one selected `selBy … z0 a0 b0`, its
weighted fit `(z1, a1, b1)` is regular, the reported selector and indices are exactly the round-two
selection against `(z1, a1, b1)`, and the reported lattice is the weighted fit of that selection -/
theorem fastmatch_valid_form (peaks : List Peak) (z0 a0 b0 : V2) (tol mw : ℚ) (mm : ℤ)
    (z2 a2 b2 : V2) (m : List Bool) (idx : List (ℤ × ℤ))
    (h : fastmatch peaks z0 a0 b0 tol mw mm = .valid z2 a2 b2 m idx) :
    ∃ z1 a1 b1, det2 a0 b0 ≠ 0 ∧
      weightedOptimize peaks (peaks.map (selBy (fun p => Gen.fm_weight_ok p.elev mw) z0 a0 b0 tol))
        ((peaks.filter (selBy (fun p => Gen.fm_weight_ok p.elev mw) z0 a0 b0 tol)).map (rix z0 a0 b0)) = some (z1, a1, b1) ∧
      det2 a1 b1 ≠ 0 ∧
      m = peaks.map (selBy (fun p => Gen.fm_weight_ok p.elev mw) z1 a1 b1 tol) ∧
      idx = (peaks.filter (selBy (fun p => Gen.fm_weight_ok p.elev mw) z1 a1 b1 tol)).map (rix z1 a1 b1) ∧
      weightedOptimize peaks m idx = some (z2, a2, b2) := by
  unfold fastmatch at h
  dsimp only at h
  -- every way out of the definition but the last gives `.invalid` or `.degenerate`; a round that answered ran against a
  -- regular lattice (`matchAll_eq_some`), which gives it its closed form (`matchAll_eq`)
  split at h
  · cases h                              -- round one: singular lattice
  next m1 idx1 hm1 =>
    have hd0 := (matchAll_eq_some hm1).1
    rw [matchAll_eq peaks _ z0 a0 b0 tol hd0] at hm1
    cases hm1
    obtain ⟨-, h⟩ | ⟨-, h⟩ := ite_eq_iff.mp h      -- (`split` on this `if` is slow to check)
    · cases h                            -- fewer than `min_match` peaks in round one
    split at h
    · split at h <;> cases h             -- the first fit does not exist (empty or rank-deficient selection)
    next z1 a1 b1 hw1 =>
      split at h
      · cases h                          -- round two: singular lattice
      next m2 idx2 hm2 =>
        have hd1 := (matchAll_eq_some hm2).1
        rw [matchAll_eq peaks _ z1 a1 b1 tol hd1] at hm2
        cases hm2
        split at h
        · split at h <;> cases h         -- the second fit does not exist
        next hw2 =>
          cases h
          exact ⟨z1, a1, b1, hd0, hw1, hd1, rfl, rfl, hw2⟩

/-- one coordinate `c` of `C06.noise_propagation` for a selection of peaks with indices `R`: `(z, al, be)` is the true lattice in that
coordinate, within `eps` of every selected peak, the primed triple the weighted fit; at every `(i, j)` they differ by `d` with
`det N · d² ≤ vᵀ adj(N) v · ε² Σw`, `v = (1, i, j)` -/
theorem fit_error_coord {chosen : List Peak} {R : Peak → ℤ × ℤ} (c : V2 → ℚ) {z al be z' al' be' eps : ℚ}
    (hsol : solveNormal (normalOf (chosen.map fun p => ⟨((R p).1 : ℚ), ((R p).2 : ℚ), p.elev, c p.pos⟩))
      = some (z', al', be'))
    (hw : ∀ p ∈ chosen, 0 ≤ p.elev)
    (hn : ∀ p ∈ chosen, |c p.pos - (z + ((R p).1 : ℚ) * al + ((R p).2 : ℚ) * be)| ≤ eps) (i j : ℚ) :
    (normalOf (designOf chosen R)).det * ((z' + i * al' + j * be') - (z + i * al + j * be)) ^ 2
      ≤ (normalOf (designOf chosen R)).adjq 1 i j * (eps ^ 2 * (normalOf (designOf chosen R)).s1) := by
  have h := C06.noise_propagation _ ?_ z al be eps ?_ z' al' be' (C06.cramer_solves_normal_eqs _ _ _ _ hsol) i j
  · rw [normalOf_design] at h
    exact h
  · exact List.forall_mem_map.mpr hw
  · exact List.forall_mem_map.mpr hn

end Model
