import BlobfinderModel.Proofs.Pipeline
import BlobfinderModel.Properties.C13
/-!
Transposition (axis swap) of the evaluation kernels and of the correlation map, stage by stage, up to one peak of the
crop-based pipeline (`fastPeak`); the full-frame pipeline is not covered, C14 states the axis swap for the crop-based one only.
The row-major `argmax` breaks ties in an order that is not symmetric under the swap, so the
statements about the integer centre need a unique maximiser.
-/
namespace Model

/-- the outputs with the two axes exchanged -/
def EvalOut.swap (e : EvalOut) : EvalOut := { e with cy := e.cx, cx := e.cy, ry := e.rx, rx := e.ry }

/-- the form of the statements of C14 -/
theorem EvalOut.fields_of_eq_swap {e e' : EvalOut} (h : e' = e.swap) :
    e'.cy = e.cx ∧ e'.cx = e.cy ∧ e'.height = e.height ∧ e'.ry = e.rx ∧ e'.rx = e.ry ∧ e'.elev2 = e.elev2 := by
  subst h; exact ⟨rfl, rfl, rfl, rfl, rfl, rfl⟩

theorem minList_flat_transpose (f : ℤ → ℤ → ℚ) (n m : ℤ) :
    minList (flat (fun y x => f x y) m n) = minList (flat f n m) := by
  refine minList_congr_mem _ _ fun v => ?_
  rw [mem_flat, mem_flat]
  constructor <;> rintro ⟨y, x, hy, hx, rfl⟩
  · exact ⟨x, y, hx, hy, rfl⟩
  · exact ⟨x, y, hx, hy, rfl⟩

theorem lsum_flat_transpose (f : ℤ → ℤ → ℚ) (n m : ℤ) :
    lsum (flat (fun y x => f x y) m n) = lsum (flat f n m) := by
  rw [lsum_flat, lsum_flat, Finset.sum_comm]

theorem refine_r_swap (r y x h w : ℤ) : refine_r r x y w h = refine_r r y x h w := by
  unfold refine_r
  rw [min_right_comm _ (w - x - 1), min_right_comm r x y]

theorem cutoutCom_transpose (cut : ℤ → ℤ → ℚ) (N : ℤ) :
    cutoutCom (fun y x => cut x y) N = (cutoutCom cut N).swap := by
  unfold cutoutCom
  rw [minList_flat_transpose cut N N,
    lsum_flat_transpose (fun y x => cut y x - minList (flat cut N N)) N N,
    lsum_flat_transpose (fun (y x : ℤ) => (cut y x - minList (flat cut N N)) * (x : ℚ)) N N,
    lsum_flat_transpose (fun (y x : ℤ) => (cut y x - minList (flat cut N N)) * (y : ℚ)) N N]
  rfl

theorem refineAt_transpose (corr : ℤ → ℤ → ℚ) (cy cx r : ℤ) :
    refineAt (fun y x => corr x y) cx cy r = (refineAt corr cy cx r).swap := by
  unfold refineAt
  rw [cutoutCom_transpose fun y x => corr (cy - r + y) (cx - r + x), apply_ite Prod.swap]
  rfl

theorem refineCenter_transpose (corr : ℤ → ℤ → ℚ) (h w cy cx radius : ℤ) :
    refineCenter (fun y x => corr x y) w h cx cy radius = (refineCenter corr h w cy cx radius).swap := by
  rw [refineCenter_eq, refineCenter_eq, refine_r_swap, refineAt_transpose]

theorem elevation2_transpose (corr : ℤ → ℤ → ℚ) (h w : ℤ) (py px height : ℚ) :
    elevation2 (fun y x => corr x y) w h px py height = elevation2 corr h w py px height := by
  rw [elevation2_eq_minOpt, elevation2_eq_minOpt]
  refine minOpt_congr_mem _ _ fun v => ?_
  simp only [mem_elevCands]
  constructor <;> rintro ⟨y, x, hy, hx, hc, rfl⟩
  · exact ⟨x, y, hx, hy, by rwa [add_comm], by rw [add_comm (_ ^ 2)]⟩
  · exact ⟨x, y, hx, hy, by rwa [add_comm], by rw [add_comm (_ ^ 2)]⟩

theorem evalAt_transpose (corr : ℤ → ℤ → ℚ) (h w cy cx : ℤ) :
    evalAt (fun y x => corr x y) w h cx cy = (evalAt corr h w cy cx).swap := by
  unfold evalAt EvalOut.swap
  simp only [refineCenter_transpose, elevation2_transpose, Prod.fst_swap, Prod.snd_swap]

theorem IsMaxAt.swap {corr : ℤ → ℤ → ℚ} {n m y x : ℤ} (h : IsMaxAt (fun y x => corr x y) m n x y) :
    IsMaxAt corr n m y x :=
  ⟨h.2.1, h.1, fun a b ha0 ha1 hb0 hb1 => h.2.2 b a hb0 hb1 ha0 ha1⟩

theorem evaluate_transpose (corr : ℤ → ℤ → ℚ) (h w : ℤ) (hh : 0 < h) (hw : 0 < w)
    (huniq : ∀ y x y' x' : ℤ, IsMaxAt corr h w y x → IsMaxAt corr h w y' x' → y = y' ∧ x = x') :
    evaluate (fun y x => corr x y) w h = (evaluate corr h w).swap := by
  obtain ⟨ex, ey⟩ := huniq _ _ _ _ (evaluate_isMaxAt (fun y x => corr x y) w h hw hh).swap (evaluate_isMaxAt corr h w hh hw)
  rw [evaluate_eq_evalAt fun y x => corr x y, ex, ey, evalAt_transpose, ← evaluate_eq_evalAt]

theorem corrMap_transpose (kind : String) (mask data : ℤ → ℤ → ℚ) (H W y x : ℤ) :
    corrMap kind (fun a b => mask b a) (fun a b => data b a) W H x y = corrMap kind mask data H W y x := by
  unfold corrMap
  simp only []  -- the `let`s of `corrMap`
  rw [lsum_nested, lsum_nested]
  exact lsum_flat_transpose (fun my mx => mask my mx * data ((shiftSrc kind H y - my) % H) ((shiftSrc kind W x - mx) % W)) H W

theorem logCrop_transpose (L : ℚ → ℚ) (crop : ℤ → ℤ → ℚ) (H W : ℤ) :
    logCrop L (fun a b => crop b a) W H = fun a b => logCrop L crop H W b a := by
  funext a b
  unfold logCrop
  rw [minList_flat_transpose crop H W]

variable {α : Type} [OfNat α 0] in
theorem window_transpose (frame : ℤ → ℤ → α) (fy fx yy xx : ℤ) :
    window (fun a b => frame b a) fx fy xx yy = window frame fy fx yy xx := by
  unfold window
  exact if_congr ⟨fun h => ⟨h.2.2.1, h.2.2.2, h.1, h.2.1⟩, fun h => ⟨h.2.2.1, h.2.2.2, h.1, h.2.1⟩⟩ rfl rfl

theorem cropPixel_transpose (frame : ℤ → ℤ → ℚ) (fy fx c p0 p1 y x : ℤ) :
    cropPixel (fun a b => frame b a) fx fy c p1 p0 x y = cropPixel frame fy fx c p0 p1 y x := by
  rw [C13.cropPixel_eq_window, C13.cropPixel_eq_window, window_transpose]

theorem fastCorr_transpose (L : ℚ → ℚ) (mask frame : ℤ → ℤ → ℚ) (fy fx c : ℤ) (p : ℤ × ℤ) :
    fastCorr L (fun a b => mask b a) (fun a b => frame b a) fx fy c (p.2, p.1)
      = fun y x => fastCorr L mask frame fy fx c p x y := by
  funext y x
  unfold fastCorr
  simp only [cropPixel_transpose frame fy fx c p.1 p.2]
  rw [logCrop_transpose]
  exact corrMap_transpose _ mask _ _ _ x y

theorem reanchor_swap (e : EvalOut) (p0 p1 c : ℤ) : reanchor e.swap p1 p0 c = (reanchor e p0 p1 c).swap := rfl

theorem fastPeak_transpose (L : ℚ → ℚ) (mask frame : ℤ → ℤ → ℚ) (fy fx c : ℤ) (hc : 0 < c) (p : ℤ × ℤ)
    (huniq : ∀ y x y' x' : ℤ, IsMaxAt (fastCorr L mask frame fy fx c p) (2 * c) (2 * c) y x →
      IsMaxAt (fastCorr L mask frame fy fx c p) (2 * c) (2 * c) y' x' → y = y' ∧ x = x') :
    fastPeak L (fun a b => mask b a) (fun a b => frame b a) fx fy c (p.2, p.1)
      = (fastPeak L mask frame fy fx c p).swap := by
  unfold fastPeak
  rw [fastCorr_transpose, evaluate_transpose _ _ _ (Int.mul_pos zero_lt_two hc) (Int.mul_pos zero_lt_two hc) huniq, reanchor_swap]

end Model
