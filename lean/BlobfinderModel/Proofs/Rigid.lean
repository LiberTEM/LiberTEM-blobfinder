import BlobfinderModel.Proofs.Lattice
import BlobfinderModel.Proofs.Coords
/-!
Equivariance of the two stages of the fast-match model (`matchAll_move`, `weightedOptimize_move`) under rational rigid
motions `p ↦ R p + t` (`R` orthogonal); `C05.rigid_equivariant` composes them.
-/
namespace Model

/-- a linear map of the plane, rows `(r11 r12; r21 r22)` acting on `(y, x)` vectors -/
structure Lin where
  r11 : ℚ
  r12 : ℚ
  r21 : ℚ
  r22 : ℚ

def Lin.app (R : Lin) (v : V2) : V2 := (R.r11 * v.1 + R.r12 * v.2, R.r21 * v.1 + R.r22 * v.2)
def Lin.det (R : Lin) : ℚ := R.r11 * R.r22 - R.r12 * R.r21
/-- columns orthonormal: `Rᵀ R = 1` -/
def Lin.Orthogonal (R : Lin) : Prop :=
  R.r11 * R.r11 + R.r21 * R.r21 = 1 ∧ R.r12 * R.r12 + R.r22 * R.r22 = 1 ∧ R.r11 * R.r12 + R.r21 * R.r22 = 0

/-- the rigid motion `p ↦ R p + t` -/
def Lin.move (R : Lin) (t : V2) (p : V2) : V2 := vadd (R.app p) t

def Peak.move (R : Lin) (t : V2) (p : Peak) : Peak := { p with pos := R.move t p.pos }

/-- the result of a match, rigidly moved -/
def MatchResult.move (R : Lin) (t : V2) : MatchResult → MatchResult
  | .invalid => .invalid
  | .degenerate => .degenerate
  | .valid z a b s i => .valid (R.move t z) (R.app a) (R.app b) s i

theorem orth_det_sq (R : Lin) (h : R.Orthogonal) : R.det * R.det = 1 := by
  obtain ⟨h1, h2, h3⟩ := h
  unfold Lin.det
  -- `det² = ‖c₁‖² ‖c₂‖² - (c₁·c₂)²` for the columns `c₁`, `c₂`
  linear_combination (R.r12 * R.r12 + R.r22 * R.r22) * h1 + h2 - (R.r11 * R.r12 + R.r21 * R.r22) * h3

theorem orth_det_ne (R : Lin) (h : R.Orthogonal) : R.det ≠ 0 := by
  intro h0
  have := orth_det_sq R h
  rw [h0] at this
  norm_num at this

theorem det2_app (R : Lin) (a b : V2) : det2 (R.app a) (R.app b) = R.det * det2 a b := by
  unfold det2 Lin.app Lin.det
  dsimp only
  ring

theorem vsub_move (R : Lin) (t p q : V2) : vsub (R.move t p) (R.move t q) = R.app (vsub p q) := by
  unfold Lin.move Lin.app vadd vsub
  apply Prod.ext
  · dsimp only
    ring
  · dsimp only
    ring

theorem getIndices_move (R : Lin) (hd : R.det ≠ 0) (t zero a b p : V2) :
    getIndices (R.move t zero) (R.app a) (R.app b) (R.move t p) = getIndices zero a b p := by
  -- the three determinants of Cramer's rule are all multiplied by `det R`
  simp only [getIndices_eq, vsub_move, det2_app, mul_eq_zero, hd, false_or, mul_div_mul_left _ _ hd]

theorem norm2_app (R : Lin) (h : R.Orthogonal) (a : V2) : norm2 (R.app a) = norm2 a := by
  obtain ⟨h1, h2, h3⟩ := h
  unfold norm2 Lin.app
  linear_combination (a.1 * a.1) * h1 + (a.2 * a.2) * h2 + 2 * (a.1 * a.2) * h3

theorem isMatched_app (R : Lin) (h : R.Orthogonal) (a b : V2) (tol : ℚ) (ij : V2) :
    isMatched (R.app a) (R.app b) tol ij = isMatched a b tol ij := by
  unfold isMatched err2
  rw [norm2_app R h a, norm2_app R h b]

theorem matchAll_move (R : Lin) (h : R.Orthogonal) (t : V2) (peaks : List Peak) (sel : List Bool)
    (zero a b : V2) (tol : ℚ) :
    matchAll (peaks.map (Peak.move R t)) sel (R.move t zero) (R.app a) (R.app b) tol
      = matchAll peaks sel zero a b tol := by
  have hd := orth_det_ne R h
  unfold matchAll
  -- the singularity test, the fractional indices of every peak and the error of an index pair are all unchanged
  simp only [det2_app, mul_eq_zero, hd, false_or, List.map_map, Function.comp_def, Peak.move, getIndices_move R hd,
    isMatched_app R h]

/-- the elements picked by a boolean mask, when every element is mapped -/
theorem chosen_map {α β : Type} (f : α → β) (m : List Bool) (l : List α) :
    ((m.zip (l.map f)).filter (·.1)).map (·.2) = (((m.zip l).filter (·.1)).map (·.2)).map f := by
  rw [List.zip_map_right, List.filter_map, List.map_map, List.map_map]
  rfl

theorem obsFor_eq_obsOf (peaks : List Peak) (m : List Bool) (idx : List (Int × Int)) (coord : V2 → ℚ) :
    obsFor peaks m idx coord
      = obsOf ((((m.zip peaks).filter (·.1)).map (·.2)).zip idx) (fun e => (e.2.1 : ℚ)) (fun e => (e.2.2 : ℚ))
          (fun e => e.1.elev) (fun e => coord e.1.pos) :=
  rfl

theorem obsFor_move (R : Lin) (t : V2) (peaks : List Peak) (m : List Bool) (idx : List (Int × Int)) (coord : V2 → ℚ) :
    obsFor (peaks.map (Peak.move R t)) m idx coord
      = obsOf ((((m.zip peaks).filter (·.1)).map (·.2)).zip idx) (fun e => (e.2.1 : ℚ)) (fun e => (e.2.2 : ℚ))
          (fun e => e.1.elev) (fun e => coord (R.move t e.1.pos)) := by
  rw [obsFor_eq_obsOf, chosen_map, List.zip_map_left]
  exact List.map_map

theorem weightedOptimize_move (R : Lin) (t : V2) (peaks : List Peak) (m : List Bool) (idx : List (Int × Int)) :
    weightedOptimize (peaks.map (Peak.move R t)) m idx
      = (weightedOptimize peaks m idx).map fun zab => (R.move t zab.1, R.app zab.2.1, R.app zab.2.2) := by
  unfold weightedOptimize
  rw [obsFor_move, obsFor_move, obsFor_eq_obsOf, obsFor_eq_obsOf]
  set base := (((m.zip peaks).filter (·.1)).map (·.2)).zip idx
  -- each moved coordinate, written out, is an affine form of the two original ones: the shape `solveNormal_affine` rewrites
  have hy : (fun e : Peak × (Int × Int) => (R.move t e.1.pos).1)
      = fun e => R.r11 * e.1.pos.1 + R.r12 * e.1.pos.2 + t.1 := rfl
  have hx : (fun e : Peak × (Int × Int) => (R.move t e.1.pos).2)
      = fun e => R.r21 * e.1.pos.1 + R.r22 * e.1.pos.2 + t.2 := rfl
  rw [hy, hx, solveNormal_affine, solveNormal_affine]
  generalize solveNormal (normalOf (obsOf base _ _ _ fun e => e.1.pos.1)) = sy
  generalize solveNormal (normalOf (obsOf base _ _ _ fun e => e.1.pos.2)) = sx
  obtain _ | ⟨zy, ay, by_⟩ := sy
  · rfl
  obtain _ | ⟨zx, ax, bx⟩ := sx <;> rfl

end Model
