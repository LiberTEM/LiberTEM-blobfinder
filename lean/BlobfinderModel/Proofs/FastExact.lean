import BlobfinderModel.Proofs.FastGeom
import BlobfinderModel.Proofs.Rank
/-!
Closed forms of the two stages of the fast-match model (`matchAll`, `weightedOptimize`) when the
working selection is a predicate on peaks, and exact recovery of the lattice from on-node peaks.
-/
namespace Model

/-- fractional indices of a peak as `_match_all` computes them -/
def ix (z a b : V2) (p : Peak) : V2 := (getIndices z a b p.pos).getD (0, 0)

/-- rounded indices of a peak -/
def rix (z a b : V2) (p : Peak) : ℤ × ℤ := (roundHalfEven (ix z a b p).1, roundHalfEven (ix z a b p).2)

/-- is the peak selected in a round started from `(z, a, b)`?  (`w` = strong enough) -/
def selBy (w : Peak → Bool) (z a b : V2) (tol : ℚ) (p : Peak) : Bool := w p && isMatched a b tol (ix z a b p)

/-- the design (indices and weights) of a selection of peaks; the observed coordinate is left 0 -/
def designOf (chosen : List Peak) (R : Peak → ℤ × ℤ) : List Obs :=
  chosen.map fun p => ⟨((R p).1 : ℚ), ((R p).2 : ℚ), p.elev, 0⟩

theorem fm_weight_ok_iff (elev mw : ℚ) : Gen.fm_weight_ok elev mw = true ↔ mw ≤ elev := by
  unfold Gen.fm_weight_ok
  rw [decide_eq_true_eq, ge_iff_le]

theorem fm_enough_iff (n mm : ℤ) : Gen.fm_enough n mm = true ↔ mm ≤ n := by
  unfold Gen.fm_enough
  rw [decide_eq_true_eq, ge_iff_le]

theorem selBy_iff (w : Peak → Bool) (z a b : V2) (tol : ℚ) (p : Peak) :
    selBy w z a b tol p = true ↔ w p = true ∧ isMatched a b tol (ix z a b p) = true := by
  unfold selBy
  rw [Bool.and_eq_true]

/-- a round selects strong peaks of the list, and node peaks when it matches only those, with their own indices (`h1`);
`node p` is the lattice node a peak sits on (or near), `none` for a peak that belongs to no node -/
theorem selected_on_nodes (peaks : List Peak) (z a b : V2) (tol mw : ℚ) (node : Peak → Option (ℤ × ℤ))
    (h1 : ∀ p ∈ peaks, mw ≤ p.elev → isMatched a b tol (ix z a b p) = true → node p = some (rix z a b p)) :
    ∀ p ∈ peaks.filter (selBy (fun p => Gen.fm_weight_ok p.elev mw) z a b tol),
      p ∈ peaks ∧ mw ≤ p.elev ∧ node p = some (rix z a b p) := by
  intro p hp
  rw [List.mem_filter, selBy_iff, fm_weight_ok_iff] at hp
  exact ⟨hp.1, hp.2.1, h1 p hp.1 hp.2.1 hp.2.2⟩

theorem matchAll_eq_none_iff (peaks : List Peak) (sel : List Bool) (z a b : V2) (tol : ℚ) :
    matchAll peaks sel z a b tol = none ↔ det2 a b = 0 := by
  unfold matchAll
  split_ifs with h <;> simp [h]

theorem matchAll_eq_some {peaks : List Peak} {sel : List Bool} {z a b : V2} {tol : ℚ} {m : List Bool} {idx : List (ℤ × ℤ)}
    (h : matchAll peaks sel z a b tol = some (m, idx)) :
    det2 a b ≠ 0 ∧
    m = (sel.zip (peaks.map (ix z a b))).map (fun (s, ij) => s && isMatched a b tol ij) ∧
    idx = ((m.zip (peaks.map (ix z a b))).filter (·.1)).map fun (_, ij) => (roundHalfEven ij.1, roundHalfEven ij.2) := by
  unfold matchAll at h
  split at h
  · cases h
  next hd =>
    simp only [Option.some.injEq, Prod.mk.injEq] at h
    obtain ⟨rfl, rfl⟩ := h
    exact ⟨hd, rfl, rfl⟩

theorem matchAll_subset (peaks : List Peak) (sel : List Bool) (zero a b : V2) (tol : ℚ)
    (m : List Bool) (idx : List (ℤ × ℤ)) (h : matchAll peaks sel zero a b tol = some (m, idx))
    (k : ℕ) (hk : k < m.length) (hm : m[k] = true) :
    ∃ hs : k < sel.length, sel[k] = true := by
  obtain ⟨-, rfl, -⟩ := matchAll_eq_some h
  simp only [List.length_map, List.length_zip] at hk
  refine ⟨by omega, ?_⟩
  simp only [List.getElem_map, List.getElem_zip, Bool.and_eq_true] at hm
  exact hm.1

/-- the first components of the pairs a mask keeps are its `true` entries -/
theorem mask_filter_fst {β : Type} (m : List Bool) (l : List β) (h : m.length ≤ l.length) :
    ((m.zip l).filter (·.1)).map Prod.fst = m.filter id := by
  conv_rhs => rw [← List.map_fst_zip h, List.filter_map]
  rfl

theorem matchAll_counts (peaks : List Peak) (sel : List Bool) (zero a b : V2) (tol : ℚ)
    (m : List Bool) (idx : List (ℤ × ℤ)) (h : matchAll peaks sel zero a b tol = some (m, idx))
    (hlen : sel.length = peaks.length) :
    m.length = peaks.length ∧ idx.length = (m.filter id).length := by
  obtain ⟨-, hm, rfl⟩ := matchAll_eq_some h
  have hml : m.length = peaks.length := by rw [hm]; simp [hlen]
  refine ⟨hml, ?_⟩
  rw [List.length_map, ← List.length_map (f := Prod.fst), mask_filter_fst]
  simp [hml]

theorem matchAll_eq (peaks : List Peak) (w : Peak → Bool) (z a b : V2) (tol : ℚ) (hd : det2 a b ≠ 0) :
    matchAll peaks (peaks.map w) z a b tol
      = some (peaks.map (selBy w z a b tol), (peaks.filter (selBy w z a b tol)).map (rix z a b)) := by
  unfold matchAll
  simp only [hd, if_false, List.zip_map', List.map_map, List.filter_map]
  rfl

/-- for an arbitrary mask and index list: `obsFor_eq_obsOf` in `Proofs/Rigid.lean` -/
theorem obsFor_eq (peaks : List Peak) (s : Peak → Bool) (R : Peak → ℤ × ℤ) (coord : V2 → ℚ) :
    obsFor peaks (peaks.map s) ((peaks.filter s).map R) coord
      = (peaks.filter s).map fun p => ⟨((R p).1 : ℚ), ((R p).2 : ℚ), p.elev, coord p.pos⟩ := by
  -- the mask `peaks.map s` picks `peaks.filter s`, which is then zipped with a function of itself: every list is a map over
  -- `peaks` or over `peaks.filter s`, and a zip of two maps of one list is a map
  unfold obsFor
  simp only [List.zip_eq_zipWith, List.zipWith_map_left, List.zipWith_map_right, List.zipWith_self, List.filter_map,
    List.map_map, Function.comp_def]

theorem filter_sublist_of_imp {α : Type} (s1 s2 : α → Bool) (l : List α)
    (h : ∀ a ∈ l.filter s1, s2 a = true) : (l.filter s1).Sublist (l.filter s2) :=
  List.sublist_filter_iff.mpr ⟨_, List.filter_sublist, (List.filter_eq_self.mpr h).symm⟩

/-- a peak exactly on node `(i, j)` of a regular lattice is matched for every positive tolerance, and rounds to `(i, j)` -/
theorem on_node (z a b : V2) (tol : ℚ) (htol : 0 < tol) (hd : det2 a b ≠ 0) (p : Peak) (i j : ℤ)
    (hp : p.pos = calcCoord z a b ((i : ℚ), (j : ℚ))) :
    isMatched a b tol (ix z a b p) = true ∧ rix z a b p = (i, j) := by
  have h1 : ix z a b p = ((i : ℚ), (j : ℚ)) := by
    unfold ix
    rw [hp, getIndices_calcCoord z a b _ hd]
    rfl
  refine ⟨?_, ?_⟩
  · rw [h1, isMatched_iff, err2_exact]
    exact ⟨htol.le, by positivity⟩
  · unfold rix
    rw [h1, round_int, round_int]

/-- the observed coordinate enters the normal matrix of a selection only through the three target sums, so `det`, `adjq` and `s1` are
those of the design (`designOf` is the list with target column 0) -/
theorem normalOf_design (chosen : List Peak) (R : Peak → ℤ × ℤ) (c : V2 → ℚ) :
    normalOf (chosen.map fun p => ⟨((R p).1 : ℚ), ((R p).2 : ℚ), p.elev, c p.pos⟩)
      = { normalOf (designOf chosen R) with
          st := lsum (chosen.map fun p => p.elev * c p.pos)
          sit := lsum (chosen.map fun p => p.elev * ((R p).1 : ℚ) * c p.pos)
          sjt := lsum (chosen.map fun p => p.elev * ((R p).2 : ℚ) * c p.pos) } := by
  unfold designOf normalOf
  simp only [List.map_map, Function.comp_def]

theorem designOf_nonneg (chosen : List Peak) (R : Peak → ℤ × ℤ) (h : ∀ p ∈ chosen, 0 ≤ p.elev) :
    ∀ o ∈ designOf chosen R, 0 ≤ o.w :=
  List.forall_mem_map.mpr h

theorem weightedOptimize_on_nodes (peaks : List Peak) (S : Peak → Bool) (R : Peak → ℤ × ℤ) (z a b : V2)
    (hon : ∀ p ∈ peaks.filter S, p.pos = calcCoord z a b (((R p).1 : ℚ), ((R p).2 : ℚ)))
    (hrank : (normalOf (designOf (peaks.filter S) R)).det ≠ 0) :
    weightedOptimize peaks (peaks.map S) ((peaks.filter S).map R) = some (z, a, b) := by
  rw [weightedOptimize_eq_some_iff, obsFor_eq, obsFor_eq]
  constructor <;>
  · apply solve_exact
    · refine List.forall_mem_map.mpr fun p hp => ?_
      simp only [resid, hon p hp, calcCoord_fst, calcCoord_snd, sub_self]
    · rw [normalOf_design]
      exact hrank

/-- **the stages of an exact recovery** (shared by the fast match and by `_tumble` of the full match):
under the hypotheses of `C05.fastmatch_exact_recovery` the fit of round one is the true lattice, round
two against the true lattice selects exactly the strong node peaks with their true indices, its fit is
the true lattice again, and round two selects at least as many peaks as round one. -/
theorem exact_stages (peaks : List Peak) (z a b z0 a0 b0 : V2) (tol mw : ℚ)
    (node : Peak → Option (ℤ × ℤ))
    (hd : det2 a b ≠ 0) (htol : 0 < tol) (hmw : 0 ≤ mw)
    (hnode : ∀ p ∈ peaks, ∀ i j, node p = some (i, j) → p.pos = calcCoord z a b ((i : ℚ), (j : ℚ)))
    (hout : ∀ p ∈ peaks, node p = none → mw ≤ p.elev → isMatched a b tol (ix z a b p) = false)
    (h1 : ∀ p ∈ peaks, mw ≤ p.elev → isMatched a0 b0 tol (ix z0 a0 b0 p) = true →
      node p = some (rix z0 a0 b0 p))
    (hrank : (normalOf ((peaks.filter (selBy (fun p => Gen.fm_weight_ok p.elev mw) z0 a0 b0 tol)).map
      fun p => ⟨((rix z0 a0 b0 p).1 : ℚ), ((rix z0 a0 b0 p).2 : ℚ), p.elev, 0⟩)).det ≠ 0) :
    weightedOptimize peaks (peaks.map (selBy (fun p => Gen.fm_weight_ok p.elev mw) z0 a0 b0 tol))
        ((peaks.filter (selBy (fun p => Gen.fm_weight_ok p.elev mw) z0 a0 b0 tol)).map (rix z0 a0 b0)) = some (z, a, b) ∧
    peaks.map (selBy (fun p => Gen.fm_weight_ok p.elev mw) z a b tol)
        = peaks.map (fun p => Gen.fm_weight_ok p.elev mw && (node p).isSome) ∧
    peaks.filter (selBy (fun p => Gen.fm_weight_ok p.elev mw) z a b tol)
        = peaks.filter (fun p => Gen.fm_weight_ok p.elev mw && (node p).isSome) ∧
    (peaks.filter (fun p => Gen.fm_weight_ok p.elev mw && (node p).isSome)).map (rix z a b)
        = (peaks.filter (fun p => Gen.fm_weight_ok p.elev mw && (node p).isSome)).map (fun p => (node p).getD (0, 0)) ∧
    weightedOptimize peaks (peaks.map (fun p => Gen.fm_weight_ok p.elev mw && (node p).isSome))
        ((peaks.filter (fun p => Gen.fm_weight_ok p.elev mw && (node p).isSome)).map (fun p => (node p).getD (0, 0)))
        = some (z, a, b) ∧
    (peaks.filter (selBy (fun p => Gen.fm_weight_ok p.elev mw) z0 a0 b0 tol)).length
        ≤ (peaks.filter (fun p => Gen.fm_weight_ok p.elev mw && (node p).isSome)).length := by
  set W : Peak → Bool := fun p => Gen.fm_weight_ok p.elev mw
  have hW : ∀ p, W p = true ↔ mw ≤ p.elev := fun p => fm_weight_ok_iff p.elev mw
  set S1 := selBy W z0 a0 b0 tol
  set T : Peak → Bool := fun p => W p && (node p).isSome
  have hS1mem := selected_on_nodes peaks z0 a0 b0 tol mw node h1
  have hTmem : ∀ p ∈ peaks.filter T, p ∈ peaks ∧ mw ≤ p.elev ∧ node p = some ((node p).getD (0, 0)) := by
    intro p hp
    obtain ⟨hpp, ht⟩ := List.mem_filter.mp hp
    obtain ⟨hw, hs⟩ := Bool.and_eq_true_iff.mp ht
    obtain ⟨ij, hn⟩ := Option.isSome_iff_exists.mp hs
    exact ⟨hpp, (hW p).mp hw, by rw [hn]; rfl⟩
  have hS2 : ∀ p ∈ peaks, selBy W z a b tol p = T p := by
    intro p hp
    show (W p && isMatched a b tol (ix z a b p)) = (W p && (node p).isSome)
    cases hwp : W p
    · rfl
    · cases hn : node p with
      | none => exact hout p hp hn ((hW p).mp hwp)
      | some ij => exact (on_node z a b tol htol hd p ij.1 ij.2 (hnode p hp _ _ hn)).1
  have hR2 : ∀ p ∈ peaks.filter T, rix z a b p = (node p).getD (0, 0) := fun p hp =>
    (on_node z a b tol htol hd p _ _ (hnode p (hTmem p hp).1 _ _ (hTmem p hp).2.2)).2
  -- rank of the final selection: it contains the round-one selection, with the same indices
  have hsub : (designOf (peaks.filter S1) (rix z0 a0 b0)).Sublist
      (designOf (peaks.filter T) fun p => (node p).getD (0, 0)) := by
    have e1 : designOf (peaks.filter S1) (rix z0 a0 b0)
        = designOf (peaks.filter S1) fun p => (node p).getD (0, 0) :=
      List.map_congr_left fun p hp => by simp only [(hS1mem p hp).2.2, Option.getD_some]
    rw [e1]
    apply List.Sublist.map
    apply filter_sublist_of_imp
    intro p hp
    obtain ⟨_, hw, hn⟩ := hS1mem p hp
    exact Bool.and_eq_true_iff.mpr ⟨(hW p).mpr hw, by rw [hn]; rfl⟩
  have hw2 := designOf_nonneg (peaks.filter T) (fun p => (node p).getD (0, 0))
    fun p hp => le_trans hmw (hTmem p hp).2.1
  have hpos2 := lt_of_lt_of_le (lt_of_le_of_ne (det_nonneg _ fun o ho => hw2 o (hsub.subset ho)) (Ne.symm hrank))
    (det_mono_sublist hsub hw2)
  refine ⟨?_, List.map_congr_left hS2, List.filter_congr hS2, List.map_congr_left hR2, ?_, ?_⟩
  · exact weightedOptimize_on_nodes peaks S1 _ z a b
      (fun p hp => hnode p (hS1mem p hp).1 _ _ (hS1mem p hp).2.2) hrank
  · exact weightedOptimize_on_nodes peaks T _ z a b
      (fun p hp => hnode p (hTmem p hp).1 _ _ (hTmem p hp).2.2) (ne_of_gt hpos2)
  · simpa only [designOf, List.length_map] using hsub.length_le

end Model
