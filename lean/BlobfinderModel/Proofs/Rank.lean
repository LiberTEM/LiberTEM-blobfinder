import BlobfinderModel.Proofs.Lattice
/-!
Rank of the weighted design `[1, i, j]` never drops when observations with non-negative weights are
added: one more observation is a rank-one update of the normal matrix (`Normal.add`), so its determinant
is non-negative and monotone under taking super-lists (matrix determinant lemma; the adjugate of a Gram matrix is
positive semi-definite).
-/
namespace Model

/-- the quadratic form `xᵀ N x` of the normal matrix -/
def Normal.quad (n : Normal) (x1 x2 x3 : ℚ) : ℚ :=
  n.s1 * x1 * x1 + n.sii * x2 * x2 + n.sjj * x3 * x3
    + 2 * n.si * x1 * x2 + 2 * n.sj * x1 * x3 + 2 * n.sij * x2 * x3

/-- `vᵀ adj(N) v` -/
def Normal.adjq (n : Normal) (v1 v2 v3 : ℚ) : ℚ :=
  (n.sii * n.sjj - n.sij * n.sij) * v1 * v1 + (n.s1 * n.sjj - n.sj * n.sj) * v2 * v2
    + (n.s1 * n.sii - n.si * n.si) * v3 * v3
    + 2 * (n.sj * n.sij - n.si * n.sjj) * v1 * v2 + 2 * (n.si * n.sij - n.sii * n.sj) * v1 * v3
    + 2 * (n.si * n.sj - n.s1 * n.sij) * v2 * v3

/-- the sums with one more observation `u = (1, i, j)` of weight `w`, target `t`: `N + w u uᵀ`, `T + w t u` -/
def Normal.add (n : Normal) (o : Obs) : Normal :=
  { s1 := o.w + n.s1, si := o.w * o.i + n.si, sj := o.w * o.j + n.sj,
    sii := o.w * o.i * o.i + n.sii, sij := o.w * o.i * o.j + n.sij, sjj := o.w * o.j * o.j + n.sjj,
    st := o.w * o.t + n.st, sit := o.w * o.i * o.t + n.sit, sjt := o.w * o.j * o.t + n.sjt }

theorem normalOf_cons (o : Obs) (l : List Obs) : normalOf (o :: l) = (normalOf l).add o := by
  unfold normalOf Normal.add
  simp only [List.map_cons, lsum_cons]

theorem normalOf_nil : normalOf [] = ⟨0, 0, 0, 0, 0, 0, 0, 0, 0⟩ := rfl

theorem normalOf_nil_det : (normalOf []).det = 0 := by
  rw [normalOf_nil]; simp [Normal.det, det3]

theorem Normal.quad_add (n : Normal) (o : Obs) (x1 x2 x3 : ℚ) :
    (n.add o).quad x1 x2 x3 = o.w * (x1 + o.i * x2 + o.j * x3) ^ 2 + n.quad x1 x2 x3 := by
  simp only [Normal.quad, Normal.add]
  ring

/-- `vᵀ adj(N + w u uᵀ) v = vᵀ adj(N) v + w (u × v)ᵀ N (u × v)` -/
theorem Normal.adjq_add (n : Normal) (o : Obs) (v1 v2 v3 : ℚ) :
    (n.add o).adjq v1 v2 v3
      = n.adjq v1 v2 v3 + o.w * n.quad (o.i * v3 - o.j * v2) (o.j * v1 - v3) (v2 - o.i * v1) := by
  simp only [Normal.adjq, Normal.quad, Normal.add]
  ring

theorem Normal.det_add (n : Normal) (o : Obs) : (n.add o).det = n.det + o.w * n.adjq 1 o.i o.j := by
  simp only [Normal.det, det3, Normal.adjq, Normal.add]
  ring

theorem quad_normalOf (l : List Obs) (x1 x2 x3 : ℚ) :
    (normalOf l).quad x1 x2 x3 = lsum (l.map fun o => o.w * (x1 + o.i * x2 + o.j * x3) ^ 2) := by
  induction l with
  | nil => rw [normalOf_nil]; simp [Normal.quad, lsum_nil]
  | cons o t ih => rw [normalOf_cons, Normal.quad_add, ih, List.map_cons, lsum_cons]

theorem quad_nonneg (l : List Obs) (hw : ∀ o ∈ l, 0 ≤ o.w) (x1 x2 x3 : ℚ) :
    0 ≤ (normalOf l).quad x1 x2 x3 := by
  rw [quad_normalOf]
  exact lsum_map_nonneg l _ fun o ho => mul_nonneg (hw o ho) (sq_nonneg _)

theorem adjq_nonneg (l : List Obs) (hw : ∀ o ∈ l, 0 ≤ o.w) (v1 v2 v3 : ℚ) :
    0 ≤ (normalOf l).adjq v1 v2 v3 := by
  induction l generalizing v1 v2 v3 with
  | nil => rw [normalOf_nil]; simp [Normal.adjq]
  | cons o t ih =>
    obtain ⟨ho, ht⟩ := List.forall_mem_cons.mp hw
    rw [normalOf_cons, Normal.adjq_add]
    exact add_nonneg (ih ht v1 v2 v3) (mul_nonneg ho (quad_nonneg t ht _ _ _))

theorem det_append_ge (m l : List Obs) (hw : ∀ p ∈ m ++ l, 0 ≤ p.w) : (normalOf l).det ≤ (normalOf (m ++ l)).det := by
  induction m with
  | nil => exact le_refl _
  | cons o t ih =>
    obtain ⟨ho, ht⟩ := List.forall_mem_cons.mp hw
    rw [List.cons_append, normalOf_cons, Normal.det_add]
    exact (ih ht).trans (le_add_of_nonneg_right (mul_nonneg ho (adjq_nonneg _ ht _ _ _)))

theorem normalOf_perm {l l' : List Obs} (h : l.Perm l') : normalOf l = normalOf l' := by
  unfold normalOf
  simp only [lsum_map_perm h]

/-- **Rank is monotone**: a super-list of observations (non-negative weights) has a determinant at
least as large; in particular a rank-3 selection stays rank 3 when more peaks are added. -/
theorem det_mono_sublist {l l' : List Obs} (h : l.Sublist l') (hw : ∀ p ∈ l', 0 ≤ p.w) :
    (normalOf l).det ≤ (normalOf l').det := by
  obtain ⟨m, hm⟩ := h.exists_perm_append
  have hp := hm.trans List.perm_append_comm
  rw [normalOf_perm hp]
  exact det_append_ge m l fun p hp' => hw p (hp.symm.subset hp')

theorem det_nonneg (l : List Obs) (hw : ∀ p ∈ l, 0 ≤ p.w) : 0 ≤ (normalOf l).det := by
  rw [← normalOf_nil_det]
  exact det_mono_sublist (List.nil_sublist l) hw

end Model
