import BlobfinderModel.Model.Scalar
import Mathlib.Tactic.Linarith
import Mathlib.Tactic.SplitIfs
import Mathlib.Tactic.FieldSimp
import Mathlib.Tactic.Ring
import Mathlib.Tactic.Positivity
import Mathlib.Algebra.Order.Field.Rat
import Mathlib.Algebra.BigOperators.Group.List.Basic
/-!
The Mathlib-free scalar helpers of `Model/Scalar.lean` are the library functions: proofs rewrite with
these equations and then use the library's lemmas about `max`, `min`, `|·|` and `List.sum`.
The other helpers of that file (`irange`, `flat`, `minList`, `minOpt`, `argmaxFirst`) are characterised in `Proofs/Eval.lean`.
The proof files over ℚ import this one, also for the tactics it brings in.
-/
namespace Model

theorem rmax_eq_max (a b : ℚ) : rmax a b = max a b := (max_def a b).symm

theorem rmin_eq_min (a b : ℚ) : rmin a b = min a b := (min_def a b).symm

theorem rabs_eq_abs (x : ℚ) : rabs x = |x| := by
  unfold rabs
  split_ifs with h
  · rw [abs_of_neg h]
  · rw [abs_of_nonneg (not_lt.mp h)]

theorem lsum_eq_sum (l : List ℚ) : lsum l = l.sum := by
  unfold lsum
  rw [List.sum_eq_foldl]

theorem lsum_nil : lsum [] = 0 := rfl

theorem lsum_cons (x : ℚ) (l : List ℚ) : lsum (x :: l) = x + lsum l := by
  simp only [lsum_eq_sum, List.sum_cons]

theorem lsum_map_nonneg {α : Type} (l : List α) (f : α → ℚ) (h : ∀ a ∈ l, 0 ≤ f a) : 0 ≤ lsum (l.map f) := by
  rw [lsum_eq_sum]
  exact List.sum_nonneg (List.forall_mem_map.mpr h)

theorem lsum_map_eq_zero {α : Type} (l : List α) (f : α → ℚ) (h : ∀ a ∈ l, f a = 0) : lsum (l.map f) = 0 := by
  rw [lsum_eq_sum]
  exact List.sum_eq_zero (List.forall_mem_map.mpr h)

theorem eq_zero_of_lsum_map_nonpos {α : Type} (l : List α) (f : α → ℚ) (h : ∀ a ∈ l, 0 ≤ f a) (hs : lsum (l.map f) ≤ 0) :
    ∀ a ∈ l, f a = 0 := by
  intro a ha
  rw [lsum_eq_sum] at hs
  have h1 : f a ≤ (l.map f).sum :=
    List.single_le_sum (List.forall_mem_map.mpr h) _ (List.mem_map.mpr ⟨a, ha, rfl⟩)
  exact le_antisymm (h1.trans hs) (h a ha)

theorem lsum_map_le {α : Type} (l : List α) (f g : α → ℚ) (h : ∀ a ∈ l, f a ≤ g a) : lsum (l.map f) ≤ lsum (l.map g) := by
  simp only [lsum_eq_sum]
  exact List.sum_le_sum h

theorem lsum_map_mul_left {α : Type} (l : List α) (c : ℚ) (f : α → ℚ) :
    lsum (l.map fun a => c * f a) = c * lsum (l.map f) := by
  induction l with
  | nil => rw [List.map_nil, List.map_nil, lsum_nil, mul_zero]
  | cons a t ih => simp only [List.map_cons, lsum_cons, ih, mul_add]

theorem weighted_mean_mem {ι : Type} (l : List ι) (wt v : ι → ℚ) (lo hi : ℚ)
    (hw : ∀ p ∈ l, 0 ≤ wt p) (hv : ∀ p ∈ l, lo ≤ v p ∧ v p ≤ hi) (hs : 0 < lsum (l.map wt)) :
    lo ≤ lsum (l.map fun p => wt p * v p) / lsum (l.map wt) ∧
    lsum (l.map fun p => wt p * v p) / lsum (l.map wt) ≤ hi := by
  -- termwise `lo · w ≤ w · v ≤ hi · w`, summed
  rw [le_div_iff₀ hs, div_le_iff₀ hs, ← lsum_map_mul_left, ← lsum_map_mul_left]
  refine ⟨lsum_map_le l _ _ fun p hp => ?_, lsum_map_le l _ _ fun p hp => ?_⟩
  · rw [mul_comm]
    exact mul_le_mul_of_nonneg_left (hv p hp).1 (hw p hp)
  · rw [mul_comm hi]
    exact mul_le_mul_of_nonneg_left (hv p hp).2 (hw p hp)

theorem lsum_map_perm {α : Type} {l l' : List α} (h : l.Perm l') (f : α → ℚ) : lsum (l.map f) = lsum (l'.map f) := by
  simp only [lsum_eq_sum, (h.map f).sum_eq]

/-! Two facts about sums over `List.range`, on `List.sum`: their users have rewritten with `lsum_eq_sum` already. -/

theorem sum_range_single (f : ℕ → ℚ) (a : ℕ) (n : ℕ) (h : ∀ k, k < n → k ≠ a → f k = 0) :
    ((List.range n).map f).sum = if a < n then f a else 0 := by
  -- the sum is `f a` as often as `a` occurs in `range n`
  rw [List.sum_map_eq_nsmul_single a f fun k hka hk => h k (List.mem_range.mp hk) hka]
  split_ifs with han
  · rw [List.count_eq_one_of_mem List.nodup_range (List.mem_range.mpr han), one_nsmul]
  · rw [List.count_eq_zero_of_not_mem (mt List.mem_range.mp han), zero_nsmul]

theorem sum_range_sub_succ (f : ℕ → ℚ) (n : ℕ) : ((List.range n).map fun k => f k - f (k + 1)).sum = f 0 - f n := by
  induction n with
  | zero => simp
  | succ n ih =>
    rw [List.range_succ, List.map_append, List.sum_append, ih, List.map_singleton, List.sum_singleton, sub_add_sub_cancel]

end Model
