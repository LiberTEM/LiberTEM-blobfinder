import Mathlib.Analysis.Fourier.ZMod
/-!
The convolution theorem for the discrete Fourier transform on `ZMod N` and on `ZMod H × ZMod W`
(in curried form), for the full transforms: the mathematical content of assumption A-FFT (the inverse transform of the product
of the transforms of mask and data is the circular convolution the model sums directly).  `Proofs/Rfft.lean` carries it over to
the half spectra that `rfft2` / `irfft2` exchange.
-/
open ZMod Finset

namespace Fourier

variable {N : ℕ} [NeZero N]

/-- 1-D circular convolution on `ZMod N` -/
noncomputable def cconv (f g : ZMod N → ℂ) (k : ZMod N) : ℂ := ∑ m, f m * g (k - m)

theorem dft_cconv (f g : ZMod N → ℂ) (k : ZMod N) : 𝓕 (cconv f g) k = 𝓕 f k * 𝓕 g k := by
  simp only [dft_apply, cconv, smul_eq_mul]
  rw [Finset.sum_mul_sum]
  simp only [Finset.mul_sum]
  rw [Finset.sum_comm]
  refine Finset.sum_congr rfl fun m _ => ?_
  -- substitute j = i + m in the inner sum
  rw [← Equiv.sum_comp (Equiv.addRight m)]
  refine Finset.sum_congr rfl fun i _ => ?_
  rw [Equiv.coe_addRight, add_sub_cancel_right, add_mul, neg_add, AddChar.map_add_eq_mul]
  ring

theorem cconv_eq_invDFT (f g : ZMod N → ℂ) : cconv f g = 𝓕⁻ (fun k => 𝓕 f k * 𝓕 g k) := by
  rw [LinearEquiv.eq_symm_apply]
  funext k
  exact dft_cconv f g k

variable {H W : ℕ} [NeZero H] [NeZero W]

/-- 2-D DFT of an `H × W` image: DFT along the rows, then along the columns -/
noncomputable def dft2 (Φ : ZMod H → ZMod W → ℂ) (k1 : ZMod H) (k2 : ZMod W) : ℂ :=
  𝓕 (fun j1 => 𝓕 (Φ j1) k2) k1

/-- inverse 2-D DFT -/
noncomputable def invDft2 (Ψ : ZMod H → ZMod W → ℂ) (j1 : ZMod H) (j2 : ZMod W) : ℂ :=
  𝓕⁻ (fun k1 => 𝓕⁻ (Ψ k1) j2) j1

theorem dft2_swap (Φ : ZMod H → ZMod W → ℂ) (k1 : ZMod H) :
    dft2 Φ k1 = 𝓕 fun j2 => 𝓕 (fun j1 => Φ j1 j2) k1 := by
  funext k2
  simp only [dft2, dft_apply, smul_eq_mul, Finset.mul_sum]
  rw [Finset.sum_comm]
  exact Finset.sum_congr rfl fun a _ => Finset.sum_congr rfl fun b _ => mul_left_comm _ _ _

theorem invDft2_dft2 (Φ : ZMod H → ZMod W → ℂ) : invDft2 (dft2 Φ) = Φ := by
  funext j1 j2
  -- with the inner transform along the second axis, each of the two inverse transforms meets its own forward transform
  simp only [invDft2, dft2_swap, LinearEquiv.symm_apply_apply]

/-- 2-D circular convolution -/
noncomputable def cconv2 (f g : ZMod H → ZMod W → ℂ) (k1 : ZMod H) (k2 : ZMod W) : ℂ :=
  ∑ m1, ∑ m2, f m1 m2 * g (k1 - m1) (k2 - m2)

/-- additivity of `𝓕` with the sum written pointwise (`map_sum` says the same for a sum of functions, but finding its
instance for this `LinearEquiv` is slow to check) -/
theorem dft_sum {ι : Type} (s : Finset ι) (F : ι → ZMod N → ℂ) (k : ZMod N) :
    𝓕 (fun j => ∑ i ∈ s, F i j) k = ∑ i ∈ s, 𝓕 (F i) k := by
  simp only [dft_apply, Finset.smul_sum]
  exact Finset.sum_comm

theorem dft2_cconv2 (f g : ZMod H → ZMod W → ℂ) (k1 : ZMod H) (k2 : ZMod W) :
    dft2 (cconv2 f g) k1 k2 = dft2 f k1 k2 * dft2 g k1 k2 := by
  rw [dft2, dft2, dft2, ← dft_cconv]
  refine congrArg (𝓕 · k1) (funext fun j1 => ?_)
  -- a row of the 2-D convolution is a sum of 1-D convolutions of rows
  exact (dft_sum Finset.univ (fun m1 => cconv (f m1) (g (j1 - m1))) k2).trans
    (Finset.sum_congr rfl fun m1 _ => dft_cconv (f m1) (g (j1 - m1)) k2)

/-- **A-FFT, mathematical part**: the 2-D circular convolution equals the inverse 2-D DFT of the
product of the 2-D DFTs. -/
theorem cconv2_eq_invDft2 (f g : ZMod H → ZMod W → ℂ) :
    cconv2 f g = invDft2 (fun k1 k2 => dft2 f k1 k2 * dft2 g k1 k2) := by
  have h : (fun k1 k2 => dft2 f k1 k2 * dft2 g k1 k2) = dft2 (cconv2 f g) := by
    funext k1 k2; exact (dft2_cconv2 f g k1 k2).symm
  rw [h, invDft2_dft2]

theorem dft_conj (g : ZMod N → ℂ) (k : ZMod N) :
    (starRingEnd ℂ) (𝓕 g k) = 𝓕 (fun j => (starRingEnd ℂ) (g j)) (-k) := by
  simp only [dft_apply, smul_eq_mul, map_sum, map_mul]
  refine Finset.sum_congr rfl fun j _ => ?_
  rw [← AddChar.map_neg_eq_conj, mul_neg, neg_neg]

/-- the spectrum of a real signal is Hermitian, which is why the half spectrum of `rfft` suffices -/
theorem dft_real_hermitian (f : ZMod N → ℝ) (k : ZMod N) :
    𝓕 (fun j => (f j : ℂ)) (-k) = (starRingEnd ℂ) (𝓕 (fun j => (f j : ℂ)) k) := by
  rw [dft_conj]; simp only [Complex.conj_ofReal]

omit [NeZero N] in
/-- the product of two Hermitian spectra is Hermitian (so `irfft` of the product is real) -/
theorem hermitian_mul (F G : ZMod N → ℂ) (hF : ∀ k, F (-k) = (starRingEnd ℂ) (F k))
    (hG : ∀ k, G (-k) = (starRingEnd ℂ) (G k)) (k : ZMod N) :
    (F (-k) * G (-k)) = (starRingEnd ℂ) (F k * G k) := by
  rw [hF, hG, map_mul]

end Fourier
