import BlobfinderModel.Proofs.Fourier
/-!
Half spectra: what `rfft` / `rfft2` keep and what `irfft(·, n)` / `irfft2(·, s)` rebuild.
-/
open ZMod Finset

namespace Fourier

variable {N : ℕ} [NeZero N]

/-- `rfft`: the coefficients `0 … N/2` of the DFT -/
noncomputable def rfft (f : ZMod N → ℂ) (m : ℕ) : ℂ := 𝓕 f (m : ZMod N)

/-- the Hermitian extension `irfft(·, n = N)` applies to a half spectrum before inverting -/
noncomputable def herm (S : ℕ → ℂ) (k : ZMod N) : ℂ :=
  if k.val ≤ N / 2 then S k.val else (starRingEnd ℂ) (S (N - k.val))

/-- `irfft(S, n = N)` -/
noncomputable def irfft (S : ℕ → ℂ) : ZMod N → ℂ := 𝓕⁻ (herm (N := N) S)

theorem cast_sub_val (k : ZMod N) : ((N - k.val : ℕ) : ZMod N) = -k := by
  have h : k.val ≤ N := le_of_lt (ZMod.val_lt k)
  rw [Nat.cast_sub h, ZMod.natCast_self, ZMod.natCast_zmod_val, zero_sub]

theorem herm_rfft (f : ZMod N → ℝ) : herm (N := N) (rfft fun j => (f j : ℂ)) = 𝓕 (fun j => (f j : ℂ)) := by
  funext k
  unfold herm rfft
  split_ifs with h
  · rw [ZMod.natCast_zmod_val]
  · rw [cast_sub_val, dft_real_hermitian, Complex.conj_conj]

/-- **`irfft(rfft(f), n = N) = f` for every length `N`, odd or even** -/
theorem irfft_rfft (f : ZMod N → ℝ) : irfft (N := N) (rfft fun j => (f j : ℂ)) = fun j => (f j : ℂ) := by
  unfold irfft
  rw [herm_rfft, LinearEquiv.symm_apply_apply]

/-- the half spectrum has `N/2 + 1` entries; the default output length of `irfft`, `2·(entries − 1)`, is `N` exactly
for even `N` (defect D1: odd frame sizes need the explicit `s=` / `n=`) -/
theorem default_length_iff_even (n : ℕ) : 2 * ((n / 2 + 1) - 1) = n ↔ n % 2 = 0 := by
  -- `2 * (n / 2) = n ↔ 2 ∣ n ↔ n % 2 = 0`
  rw [Nat.add_sub_cancel, Nat.mul_div_eq_iff_dvd, Nat.dvd_iff_mod_eq_zero]

/-- lengths `2m` and `2m + 1` have half spectra of the same width -/
theorem half_spectrum_ambiguous (m : ℕ) : (2 * m) / 2 + 1 = (2 * m + 1) / 2 + 1 := by omega

omit [NeZero N] in
/-- the Hermitian extension is multiplicative: the product of two half spectra extends to the product of the spectra -/
theorem herm_mul (S T : ℕ → ℂ) (k : ZMod N) :
    herm (N := N) (fun m => S m * T m) k = herm (N := N) S k * herm (N := N) T k := by
  unfold herm
  split_ifs
  · rfl
  · exact map_mul _ _ _

/-- **1-D route of the code**: `irfft(rfft(mask) · rfft(data), n = N)` is the circular convolution, for every `N` -/
theorem irfft_mul_rfft (f g : ZMod N → ℝ) :
    irfft (N := N) (fun m => rfft (fun j => (f j : ℂ)) m * rfft (fun j => (g j : ℂ)) m)
      = cconv (fun j => (f j : ℂ)) (fun j => (g j : ℂ)) := by
  rw [irfft, cconv_eq_invDFT]
  refine congrArg 𝓕⁻ (funext fun k => ?_)
  rw [herm_mul, herm_rfft, herm_rfft]

end Fourier

namespace Fourier
variable {H W : ℕ} [NeZero H] [NeZero W]

theorem dft2_real_hermitian (Φ : ZMod H → ZMod W → ℝ) (k1 : ZMod H) (k2 : ZMod W) :
    dft2 (fun a b => (Φ a b : ℂ)) (-k1) (-k2) = (starRingEnd ℂ) (dft2 (fun a b => (Φ a b : ℂ)) k1 k2) := by
  rw [dft2, dft2, dft_conj]
  exact congrArg (𝓕 · (-k1)) (funext fun j1 => dft_real_hermitian (Φ j1) k2)

/-- `rfft2`: all row frequencies, column frequencies `0 … W/2` -/
noncomputable def rfft2 (Φ : ZMod H → ZMod W → ℂ) (k1 : ZMod H) (m : ℕ) : ℂ := dft2 Φ k1 (m : ZMod W)

/-- the Hermitian extension `irfft2(·, s = (H, W))` applies along the last axis -/
noncomputable def herm2 (S : ZMod H → ℕ → ℂ) (k1 : ZMod H) (k2 : ZMod W) : ℂ :=
  if k2.val ≤ W / 2 then S k1 k2.val else (starRingEnd ℂ) (S (-k1) (W - k2.val))

/-- `irfft2(S, s = (H, W))` -/
noncomputable def irfft2 (S : ZMod H → ℕ → ℂ) : ZMod H → ZMod W → ℂ := invDft2 (herm2 (W := W) S)

theorem herm2_rfft2 (Φ : ZMod H → ZMod W → ℝ) :
    herm2 (W := W) (rfft2 fun a b => (Φ a b : ℂ)) = dft2 (fun a b => (Φ a b : ℂ)) := by
  funext k1 k2
  unfold herm2 rfft2
  split_ifs with h
  · rw [ZMod.natCast_zmod_val]
  · rw [cast_sub_val, dft2_real_hermitian, Complex.conj_conj]

/-- **`irfft2(rfft2(f), s = f.shape) = f` for every shape** (even, odd, non-square) -/
theorem irfft2_rfft2 (Φ : ZMod H → ZMod W → ℝ) :
    irfft2 (W := W) (rfft2 fun a b => (Φ a b : ℂ)) = fun a b => (Φ a b : ℂ) := by
  unfold irfft2
  rw [herm2_rfft2, invDft2_dft2]

omit [NeZero H] [NeZero W] in
theorem herm2_mul (S T : ZMod H → ℕ → ℂ) (k1 : ZMod H) (k2 : ZMod W) :
    herm2 (W := W) (fun a m => S a m * T a m) k1 k2 = herm2 (W := W) S k1 k2 * herm2 (W := W) T k1 k2 := by
  unfold herm2
  split_ifs
  · rfl
  · exact map_mul _ _ _

/-- **the route of the code, for every frame shape**: `irfft2(rfft2(mask) · rfft2(data), s = shape)` is the 2-D circular
convolution of mask and data.  What remains assumed about NumPy (A-FFT) is exactly the documented meaning of the two
calls: `rfft2` returns the column frequencies `0 … W/2` of the 2-D DFT, `irfft2(·, s)` inverts the Hermitian extension. -/
theorem irfft2_mul_rfft2 (f g : ZMod H → ZMod W → ℝ) :
    irfft2 (W := W) (fun a m => rfft2 (fun a b => (f a b : ℂ)) a m * rfft2 (fun a b => (g a b : ℂ)) a m)
      = cconv2 (fun a b => (f a b : ℂ)) (fun a b => (g a b : ℂ)) := by
  rw [irfft2, cconv2_eq_invDft2]
  refine congrArg invDft2 (funext fun k1 => funext fun k2 => ?_)
  rw [herm2_mul, herm2_rfft2, herm2_rfft2]

end Fourier
