import BlobfinderModel.Properties.C04
import BlobfinderModel.Properties.C16
import BlobfinderModel.Proofs.Upsample
import Mathlib.Algebra.BigOperators.Group.Finset.Basic
import Mathlib.Algebra.Order.BigOperators.Group.Finset
import Mathlib.Tactic.Abel
import Mathlib.Data.ZMod.Basic
import Mathlib.Algebra.BigOperators.Ring.Finset
/-!
# C01 — pixel-centred matched disk is located exactly  (partial)

Proved (exact arithmetic):
* index chain: the correlation map reads the mask centred on the evaluated pixel for every size
  parity (`C03.corr_index_map`), masks / user templates / RGBS geometry are centred on `shape // 2`
  (C16), re-anchoring is exact (`C03.shift_unshift`), the upsampling uses the centre `ceil(n/2)` that
  matches the `ifftshift` (`upsample_center_matches_shift`);
* on any finite abelian group of pixel positions (in particular `ZMod h × ZMod w`, the circular
  frame): a mask that is point-symmetric about its centre `c` correlated with data point-symmetric
  about `q` gives a map symmetric about `q` (`corr_symmetric`), and the correlation of a function with
  its own translate is maximal at the true shift (`autocorr_max` — the `Circular` pattern on a disk
  of its own shape);
* the centre of mass of a point-symmetric `(2r+1)²` neighbourhood is its centre, so the refined
  position equals the integer centre exactly (`com_symmetric`, `refineAt_symmetric`).
* **every sign-matched template on a flat (hard-edged) disk**: a template that is ≥ 0 on the disk's pixels and ≤ 0 off
  them (radial gradient, background subtraction, user templates of that kind) has its correlation maximum at the disk
  centre (`sign_matched_max`), strictly and uniquely so when it is positive on the disk and the disk is not mapped onto
  itself by a non-zero shift (`sign_matched_strict`, `sign_matched_unique`); a strict maximum plus point symmetry gives
  the exact integer centre and the exact refined position (`strictMax_isMaxAt`, `evaluate_strictmax_exact`);
* the model's correlation map *is* that group correlation on the torus `ZMod H × ZMod W` with the mask centred on
  `(H/2, W/2)` (`corrMap_eq_gcorr`), so the above composes **end to end**: `flat_disk_exact` — for every map size and
  parity, every symmetric disk shape and every symmetric sign-matched template, the evaluation kernels applied to the
  model's correlation map return integer centre `q` and refined position exactly `q` (non-vacuity: a concrete 7×7
  instance is checked by `decide`), and through both composed pipelines: `fastPeak_flat_disk_exact` (crop-based: centre and
  refined position are exactly `start − c + w`) and `fullPeak_flat_disk_exact` (full-frame: exactly `q` for every start
  position whose window lies in the frame and contains `q` 2 px inside).

**Not proved**: the same for the *antialiased* disks and masks the library renders (edge pixels with fractional weights
on both sides — there the uniqueness of the maximum is decided by the oracle only), the 0.01 px float bound and the
`1.5/upsample` bound.
-/
namespace C01
open Model

/-- circular correlation on a finite abelian group of positions, mask centred at `c` -/
def gcorr {G : Type} [AddCommGroup G] [Fintype G] (c : G) (mask data : G → ℚ) (j : G) : ℚ :=
  ∑ m : G, mask m * data (j + c - m)

section Gcorr
variable {G : Type} [AddCommGroup G] [Fintype G]

theorem gcorr_affine (c : G) (mask d : G → ℚ) (A B : ℚ) (j : G) :
    gcorr c mask (fun x => A * d x + B) j = A * gcorr c mask d j + B * ∑ m, mask m := by
  simp only [gcorr, Finset.mul_sum, ← Finset.sum_add_distrib]
  exact Finset.sum_congr rfl fun m _ => by ring

theorem gcorr_sum_affine {ι : Type} (s : Finset ι) (c : G) (mask : G → ℚ) (d : ι → G → ℚ) (A : ι → ℚ) (B : ℚ) (j : G) :
    gcorr c mask (fun x => (∑ l ∈ s, A l * d l x) + B) j
      = (∑ l ∈ s, A l * gcorr c mask (d l) j) + B * ∑ m, mask m := by
  simp only [gcorr, mul_add, Finset.mul_sum, Finset.sum_add_distrib]
  rw [Finset.sum_comm]
  exact congrArg₂ (· + ·) (Finset.sum_congr rfl fun l _ => Finset.sum_congr rfl fun m _ => mul_left_comm _ _ _)
    (Finset.sum_congr rfl fun m _ => mul_comm _ _)

theorem gcorr_centred (c : G) (mask data : G → ℚ) (j : G) :
    gcorr c mask data j = ∑ u, mask (c + u) * data (j - u) := by
  rw [gcorr, ← Equiv.sum_comp (Equiv.addLeft c)]
  exact Finset.sum_congr rfl fun u _ => by rw [Equiv.coe_addLeft, add_comm j c, add_sub_add_left_eq_sub]

end Gcorr

/-- **symmetric mask, symmetric data ⇒ symmetric correlation map** (about the data's centre `q`) -/
theorem corr_symmetric {G : Type} [AddCommGroup G] [Fintype G] (c q : G) (mask data : G → ℚ)
    (hm : ∀ u, mask (c + u) = mask (c - u)) (hd : ∀ u, data (q + u) = data (q - u)) (d : G) :
    gcorr c mask data (q + d) = gcorr c mask data (q - d) := by
  -- reindex the left sum by `u ↦ -u`: the term at `-u` is the right term at `u`, by `hm` on the mask and `hd` on the data
  rw [gcorr_centred, gcorr_centred, ← Equiv.sum_comp (Equiv.neg G)]
  refine Finset.sum_congr rfl fun u _ => ?_
  rw [Equiv.neg_apply, ← sub_eq_add_neg, ← hm, sub_neg_eq_add, add_assoc, hd, sub_sub]

/-- **the correlation of a function with its own translate is maximal at the true shift**:
`Σ f(m) f(m + s) ≤ Σ f(m)²` for every shift `s` -/
theorem autocorr_max {G : Type} [AddCommGroup G] [Fintype G] (f : G → ℚ) (s : G) :
    ∑ m : G, f m * f (m + s) ≤ ∑ m : G, f m * f m := by
  have h2 : ∑ m : G, f (m + s) * f (m + s) = ∑ m : G, f m * f m :=
    Equiv.sum_comp (Equiv.addRight s) (fun m => f m * f m)
  have h1 : ∑ m : G, (2 * (f m * f (m + s))) ≤ ∑ m : G, (f m * f m + f (m + s) * f (m + s)) :=
    Finset.sum_le_sum fun m _ => by linarith [two_mul_le_add_sq (f m) (f (m + s)), sq (f m), sq (f (m + s))]
  rw [Finset.sum_add_distrib, h2, ← Finset.mul_sum] at h1
  linarith

/-- data = `A · (mask translated to q) + B` with `A ≥ 0`: the map is maximal at `q` -/
theorem matched_disk_max {G : Type} [AddCommGroup G] [Fintype G] (c q : G) (mask : G → ℚ) (A B : ℚ)
    (hA : 0 ≤ A) (hsym : ∀ u, mask (c + u) = mask (c - u)) (j : G) :
    gcorr c mask (fun x => A * mask (x - q + c) + B) j ≤ gcorr c mask (fun x => A * mask (x - q + c) + B) q := by
  -- with `f u = mask (c + u)` the map at `j` is the autocorrelation of `f` at the shift `q - j`
  have key : ∀ j, gcorr c mask (fun x => mask (x - q + c)) j = ∑ u, mask (c + u) * mask (c + (u + (q - j))) := fun j => by
    rw [gcorr_centred]
    refine Finset.sum_congr rfl fun u _ => ?_
    rw [show j - u - q + c = c - (u + (q - j)) by abel, ← hsym]
  rw [gcorr_affine c mask (fun x => mask (x - q + c)), gcorr_affine c mask (fun x => mask (x - q + c)), key, key, sub_self]
  simp only [add_zero]
  exact add_le_add_left (mul_le_mul_of_nonneg_left (autocorr_max (fun u => mask (c + u)) (q - j)) hA) _

section SignMatched
variable {G : Type} [AddCommGroup G] [Fintype G] [DecidableEq G]

/-- a flat disk: amplitude `A` on the pixels `q + S`, background `B` -/
def flatDisk (q : G) (S : Finset G) (A B : ℚ) : G → ℚ := fun x => A * (if x - q ∈ S then 1 else 0) + B

/-- difference of the correlation maps at the disk centre and at any other pixel, term by term -/
theorem flat_corr_diff (c q : G) (mask : G → ℚ) (S : Finset G) (A B : ℚ) (j : G)
    (hsym : ∀ u, u ∈ S ↔ -u ∈ S) :
    gcorr c mask (flatDisk q S A B) q - gcorr c mask (flatDisk q S A B) j
      = A * ∑ u : G, mask (c + u) * ((if u ∈ S then 1 else 0) - (if (j - q) - u ∈ S then (1 : ℚ) else 0)) := by
  unfold flatDisk
  simp only [gcorr_affine c mask (fun x => if x - q ∈ S then 1 else 0), gcorr_centred]
  rw [add_sub_add_right_eq_sub, ← mul_sub, ← Finset.sum_sub_distrib]
  -- at the centre the indicator reads `q - u - q = -u ∈ S`, which `hsym` turns into `u ∈ S`
  simp only [sub_right_comm, sub_self, zero_sub, ← hsym, mul_sub]

omit [Fintype G] in
theorem sign_matched_term (c d u : G) (mask : G → ℚ) (S : Finset G)
    (hin : ∀ u ∈ S, 0 ≤ mask (c + u)) (hout : ∀ u, u ∉ S → mask (c + u) ≤ 0) :
    0 ≤ mask (c + u) * ((if u ∈ S then 1 else 0) - (if d - u ∈ S then (1 : ℚ) else 0)) := by
  -- the second indicator lies in `[0, 1]`, so the difference has the sign of the first
  by_cases hu : u ∈ S
  · rw [if_pos hu]
    exact mul_nonneg (hin u hu) (sub_nonneg.mpr (ite_le_one le_rfl zero_le_one))
  · rw [if_neg hu, zero_sub]
    exact mul_nonneg_of_nonpos_of_nonpos (hout u hu) (neg_nonpos.mpr (ite_nonneg zero_le_one le_rfl))

/-- **sign-matched template, flat disk: the correlation map is maximal at the disk centre** -/
theorem sign_matched_max (c q : G) (mask : G → ℚ) (S : Finset G) (A B : ℚ) (hA : 0 ≤ A)
    (hsym : ∀ u, u ∈ S ↔ -u ∈ S)
    (hin : ∀ u ∈ S, 0 ≤ mask (c + u)) (hout : ∀ u, u ∉ S → mask (c + u) ≤ 0) (j : G) :
    gcorr c mask (flatDisk q S A B) j ≤ gcorr c mask (flatDisk q S A B) q := by
  rw [← sub_nonneg, flat_corr_diff c q mask S A B j hsym]
  exact mul_nonneg hA (Finset.sum_nonneg fun u _ => sign_matched_term c (j - q) u mask S hin hout)

/-- ... and strictly so, as soon as one pixel of the disk with positive weight leaves the shifted disk (or one
pixel of negative weight enters it) -/
theorem sign_matched_strict (c q : G) (mask : G → ℚ) (S : Finset G) (A B : ℚ) (hA : 0 < A)
    (hsym : ∀ u, u ∈ S ↔ -u ∈ S)
    (hin : ∀ u ∈ S, 0 ≤ mask (c + u)) (hout : ∀ u, u ∉ S → mask (c + u) ≤ 0) (j : G)
    (hw : ∃ u, (u ∈ S ∧ j - q - u ∉ S ∧ 0 < mask (c + u)) ∨ (u ∉ S ∧ j - q - u ∈ S ∧ mask (c + u) < 0)) :
    gcorr c mask (flatDisk q S A B) j < gcorr c mask (flatDisk q S A B) q := by
  rw [← sub_pos, flat_corr_diff c q mask S A B j hsym]
  refine mul_pos hA (Finset.sum_pos' (fun u _ => sign_matched_term c (j - q) u mask S hin hout) ?_)
  obtain ⟨u, ⟨h1, h2, h3⟩ | ⟨h1, h2, h3⟩⟩ := hw
  · exact ⟨u, Finset.mem_univ u, by rw [if_pos h1, if_neg h2, sub_zero, mul_one]; exact h3⟩
  · exact ⟨u, Finset.mem_univ u, by rw [if_neg h1, if_pos h2, zero_sub, mul_neg_one]; exact neg_pos.mpr h3⟩

/-- a template that is strictly positive on the disk and not positive outside: the maximum at the centre is unique,
provided no non-zero shift maps the disk onto itself -/
theorem sign_matched_unique (c q : G) (mask : G → ℚ) (S : Finset G) (A B : ℚ) (hA : 0 < A)
    (hsym : ∀ u, u ∈ S ↔ -u ∈ S)
    (hin : ∀ u ∈ S, 0 < mask (c + u)) (hout : ∀ u, u ∉ S → mask (c + u) ≤ 0)
    (hshape : ∀ d : G, d ≠ 0 → ∃ u ∈ S, d - u ∉ S) (j : G) (hj : j ≠ q) :
    gcorr c mask (flatDisk q S A B) j < gcorr c mask (flatDisk q S A B) q := by
  have hd : j - q ≠ 0 := sub_ne_zero.mpr hj
  obtain ⟨u, hu, hnu⟩ := hshape (j - q) hd
  exact sign_matched_strict c q mask S A B hA hsym (fun u hu => le_of_lt (hin u hu)) hout j
    ⟨u, Or.inl ⟨hu, hnu, hin u hu⟩⟩

end SignMatched

/-- template and disk of the example below -/
def exMask : ZMod 7 → ℚ := fun x => if x = 3 then 1 else if x = 2 ∨ x = 4 then 2 else -1
def exDisk : Finset (ZMod 7) := {0, 1, 6}

/-- non-vacuity: a radial-gradient-like template (larger at the rim than at the centre) with a negative surround on the
circular axis `ZMod 7`, disk `{-1, 0, 1}` at pixel 2: all hypotheses of `sign_matched_unique` hold -/
example : ∀ j : ZMod 7, j ≠ 2 →
    gcorr 3 exMask (flatDisk 2 exDisk 5 1) j < gcorr 3 exMask (flatDisk 2 exDisk 5 1) 2 :=
  fun j hj => sign_matched_unique 3 2 exMask exDisk 5 1 (by norm_num)
    (by decide +kernel) (by decide +kernel) (by decide +kernel) (by decide +kernel) j hj

/-- a weight `w` invariant under an involution `σ` of the index set, times a function `φ` that `σ` reflects about `ρ`
(`φ ∘ σ + φ = 2ρ`), sums to `ρ` times the total weight -/
theorem sum_mul_of_reflect {α : Type} (s : Finset α) (σ : α → α) (hσ : ∀ a ∈ s, σ a ∈ s) (hσσ : ∀ a ∈ s, σ (σ a) = a)
    (w φ : α → ℚ) (ρ : ℚ) (hw : ∀ a ∈ s, w (σ a) = w a) (hφ : ∀ a ∈ s, φ (σ a) + φ a = 2 * ρ) :
    ∑ a ∈ s, w a * φ a = ρ * ∑ a ∈ s, w a := by
  have h : ∑ a ∈ s, w a * φ a = ∑ a ∈ s, w a * (2 * ρ - φ a) :=
    Finset.sum_nbij' σ σ hσ hσ hσσ hσσ fun a ha => by rw [hw a ha, ← hφ a ha, add_sub_cancel_left]
  rw [Finset.sum_congr rfl fun a _ => mul_sub (w a) (2 * ρ) (φ a), Finset.sum_sub_distrib, ← Finset.sum_mul] at h
  linear_combination (1 / 2 : ℚ) * h

/-- **centre of mass of a point-symmetric `(2r+1)²` block is its centre** (exactly, for any
non-zero total) -/
theorem com_symmetric (wgt : ℤ → ℤ → ℚ) (r : ℕ)
    (hsym : ∀ y x : ℕ, y ≤ 2 * r → x ≤ 2 * r → wgt y x = wgt ((2 * r - y : ℕ) : ℤ) ((2 * r - x : ℕ) : ℤ))
    (hs : lsum (flat wgt (2 * r + 1 : ℕ) (2 * r + 1 : ℕ)) ≠ 0) :
    lsum (flat (fun y x => wgt y x * (y : ℚ)) (2 * r + 1 : ℕ) (2 * r + 1 : ℕ))
        / lsum (flat wgt (2 * r + 1 : ℕ) (2 * r + 1 : ℕ)) = r ∧
    lsum (flat (fun y x => wgt y x * (x : ℚ)) (2 * r + 1 : ℕ) (2 * r + 1 : ℕ))
        / lsum (flat wgt (2 * r + 1 : ℕ) (2 * r + 1 : ℕ)) = r := by
  simp only [lsum_flat, Int.toNat_natCast, Int.cast_natCast, ← Finset.sum_product'] at hs ⊢
  set s := Finset.range (2 * r + 1) ×ˢ Finset.range (2 * r + 1)
  have hmem : ∀ p ∈ s, p.1 ≤ 2 * r ∧ p.2 ≤ 2 * r := fun p hp =>
    ⟨Finset.mem_range_succ_iff.mp (Finset.mem_product.mp hp).1, Finset.mem_range_succ_iff.mp (Finset.mem_product.mp hp).2⟩
  -- the point reflection of the block reflects either coordinate `φ` about `r`
  have key : ∀ φ : ℕ × ℕ → ℕ, (∀ p ∈ s, φ (2 * r - p.1, 2 * r - p.2) + φ p = 2 * r) →
      ∑ p ∈ s, wgt p.1 p.2 * ((φ p : ℕ) : ℚ) = r * ∑ p ∈ s, wgt p.1 p.2 := fun φ hφ =>
    sum_mul_of_reflect s (fun p => (2 * r - p.1, 2 * r - p.2))
      (fun p _ => Finset.mem_product.mpr
        ⟨Finset.mem_range_succ_iff.mpr (Nat.sub_le _ _), Finset.mem_range_succ_iff.mpr (Nat.sub_le _ _)⟩)
      (fun p hp => Prod.ext (Nat.sub_sub_self (hmem p hp).1) (Nat.sub_sub_self (hmem p hp).2)) _ _ r
      (fun p hp => (hsym p.1 p.2 (hmem p hp).1 (hmem p hp).2).symm)
      (fun p hp => by exact_mod_cast hφ p hp)
  rw [div_eq_iff hs, div_eq_iff hs]
  exact ⟨key Prod.fst fun p hp => Nat.sub_add_cancel (hmem p hp).1,
    key Prod.snd fun p hp => Nat.sub_add_cancel (hmem p hp).2⟩

/-- along one axis, cell `y` of the block of radius `r` about `q` is `q + d` and its mirror image `2r − y` is `q − d`: the passage from the
`ℕ` cells with truncated subtraction of `com_symmetric` (`lsum_flat` gives sums over `Finset.range`) to the signed offsets of `refineAt` -/
theorem block_mirror (q : ℤ) (r y : ℕ) (hy : y ≤ 2 * r) :
    ∃ d : ℤ, (-r ≤ d ∧ d ≤ r) ∧ q - r + y = q + d ∧ q - r + ((2 * r - y : ℕ) : ℤ) = q - d :=
  ⟨y - r, by omega⟩

/-- on a map that is point-symmetric about `q` within radius `r`, the refinement returns `q` itself; the corner hypothesis
`hlt` keeps the min-subtracted total of the block, by which `center_of_mass` divides, non-zero -/
theorem refineAt_symmetric (corr : ℤ → ℤ → ℚ) (qy qx : ℤ) (r : ℕ) (hr : 0 < r)
    (hsym : ∀ dy dx : ℤ, -r ≤ dy → dy ≤ r → -r ≤ dx → dx ≤ r → corr (qy + dy) (qx + dx) = corr (qy - dy) (qx - dx))
    (hlt : corr (qy - r) (qx - r) < corr qy qx) :
    refineAt corr qy qx r = ((qy : ℚ), (qx : ℚ)) := by
  rw [refineAt, if_neg (by omega)]
  set cut : ℤ → ℤ → ℚ := fun y x => corr (qy - r + y) (qx - r + x) with hcut
  set mn := minList (flat cut (2 * r + 1 : ℕ) (2 * r + 1 : ℕ))
  have hpos : 0 < lsum (flat (fun y x => cut y x - mn) (2 * r + 1 : ℕ) (2 * r + 1 : ℕ)) :=
    C04.com_total_pos cut _ _ r r 0 0 (by omega) (by omega) (by
      simp only [hcut, add_zero, sub_add_cancel]; exact hlt)
  -- `com_symmetric` has the block size as `((2 * r + 1 : ℕ) : ℤ)`; `refineAt` has `2 * (r : ℤ) + 1`, which is the same by `rfl`
  have hcom : cutoutCom cut (2 * (r : ℤ) + 1) = ((r : ℚ), (r : ℚ)) := by
    refine Prod.ext_iff.mpr (com_symmetric (fun y x => cut y x - mn) r (fun y x hy hx => ?_) hpos.ne')
    obtain ⟨dy, hdy, ey, ey'⟩ := block_mirror qy r y hy
    obtain ⟨dx, hdx, ex, ex'⟩ := block_mirror qx r x hx
    simp only [hcut]
    rw [ey, ey', ex, ex', hsym dy dx hdy.1 hdy.2 hdx.1 hdx.2]
  rw [hcom]
  exact Prod.ext (add_sub_cancel_right _ _) (add_sub_cancel_right _ _)

/-! ### composed: a symmetric, uniquely peaked window map is evaluated exactly -/

/-- a position 2 px inside `[0, n)`: it and the low corner of its 5-block are in range, and the radius 2 is not clipped -/
theorem two_inside (q n : ℤ) (h : 2 ≤ q ∧ q + 2 < n) :
    (0 ≤ q ∧ q < n) ∧ (0 ≤ q - 2 ∧ q - 2 < n) ∧ 2 ≤ n - q - 1 := by
  omega

/-- **Exact location at the model level.**  If a correlation map has a unique maximiser `q` at least
2 px away from the border of the map and is point-symmetric about `q` on the 5×5 neighbourhood
(what `corr_symmetric` gives for a symmetric mask and a symmetric disk, `matched_disk_max` for the
maximum), then the evaluation kernels report integer centre `q` **and refined position exactly `q`**
— for every map size. -/
theorem evaluate_symmetric_exact (corr : ℤ → ℤ → ℚ) (n m : ℕ) (hn : 0 < n) (hm : 0 < m) (qy qx : ℤ)
    (hqy : 2 ≤ qy ∧ qy + 2 < n) (hqx : 2 ≤ qx ∧ qx + 2 < m)
    (hmaxq : IsMaxAt corr n m qy qx)
    (huniq : ∀ y x y' x' : ℤ, IsMaxAt corr n m y x → IsMaxAt corr n m y' x' → y = y' ∧ x = x')
    (hsym : ∀ dy dx : ℤ, -2 ≤ dy → dy ≤ 2 → -2 ≤ dx → dx ≤ 2 → corr (qy + dy) (qx + dx) = corr (qy - dy) (qx - dx)) :
    (evaluate corr n m).cy = qy ∧ (evaluate corr n m).cx = qx ∧
    (evaluate corr n m).ry = (qy : ℚ) ∧ (evaluate corr n m).rx = (qx : ℚ) := by
  obtain ⟨ecy, ecx⟩ := huniq _ _ _ _ (evaluate_isMaxAt corr n m (Int.natCast_pos.mpr hn) (Int.natCast_pos.mpr hm)) hmaxq
  obtain ⟨-, hby, hry⟩ := two_inside qy n hqy
  obtain ⟨-, hbx, hrx⟩ := two_inside qx m hqx
  -- a corner of the 5×5 block is not a maximiser, so it lies strictly below the centre
  have hlt : corr (qy - 2) (qx - 2) < corr qy qx := by
    refine lt_of_le_of_ne (hmaxq.2.2 _ _ hby.1 hby.2 hbx.1 hbx.2) fun h => ?_
    have := (huniq _ _ _ _ ⟨hby, hbx, fun a b ha0 ha1 hb0 hb1 => h ▸ hmaxq.2.2 a b ha0 ha1 hb0 hb1⟩ hmaxq).1
    omega
  have hr : refine_r refine_radius qy qx n m = 2 :=
    le_antisymm ((le_refine_r_iff _ _ _ _ _ _).mp le_rfl).1
      ((le_refine_r_iff _ _ _ _ _ _).mpr ⟨le_rfl, hqy.1, hqx.1, hry, hrx⟩)
  have hrf : refineCenter corr n m (evaluate corr n m).cy (evaluate corr n m).cx refine_radius = ((qy : ℚ), (qx : ℚ)) := by
    rw [ecy, ecx, refineCenter_eq, hr]
    exact refineAt_symmetric corr qy qx 2 two_pos hsym hlt
  exact ⟨ecy, ecx, congrArg Prod.fst hrf, congrArg Prod.snd hrf⟩

/-- a strict maximum over the map is *the* maximiser in the sense the evaluation kernel uses -/
theorem strictMax_isMaxAt (corr : ℤ → ℤ → ℚ) (n m qy qx : ℤ) (hqy : 0 ≤ qy ∧ qy < n) (hqx : 0 ≤ qx ∧ qx < m)
    (hstrict : ∀ a b : ℤ, 0 ≤ a → a < n → 0 ≤ b → b < m → (a, b) ≠ (qy, qx) → corr a b < corr qy qx) :
    IsMaxAt corr n m qy qx ∧
    (∀ y x y' x' : ℤ, IsMaxAt corr n m y x → IsMaxAt corr n m y' x' → y = y' ∧ x = x') := by
  have key : ∀ y x : ℤ, IsMaxAt corr n m y x → (y, x) = (qy, qx) := fun y x ⟨hy, hx, hmx⟩ =>
    by_contra fun hne => absurd (hmx qy qx hqy.1 hqy.2 hqx.1 hqx.2) (not_le.mpr (hstrict y x hy.1 hy.2 hx.1 hx.2 hne))
  refine ⟨⟨hqy, hqx, fun a b ha0 ha1 hb0 hb1 => ?_⟩,
    fun y x y' x' h h' => Prod.mk.inj ((key y x h).trans (key y' x' h').symm)⟩
  by_cases h : (a, b) = (qy, qx)
  · rw [(Prod.mk.inj h).1, (Prod.mk.inj h).2]
  · exact (hstrict a b ha0 ha1 hb0 hb1 h).le

/-- **strict maximum + point symmetry ⇒ exact centre and exact refined position** (the two hypotheses are what
`sign_matched_unique` / `matched_disk_max` and `corr_symmetric` deliver for a symmetric template on a flat disk) -/
theorem evaluate_strictmax_exact (corr : ℤ → ℤ → ℚ) (n m : ℕ) (hn : 0 < n) (hm : 0 < m) (qy qx : ℤ)
    (hqy : 2 ≤ qy ∧ qy + 2 < n) (hqx : 2 ≤ qx ∧ qx + 2 < m)
    (hstrict : ∀ a b : ℤ, 0 ≤ a → a < n → 0 ≤ b → b < m → (a, b) ≠ (qy, qx) → corr a b < corr qy qx)
    (hsym : ∀ dy dx : ℤ, -2 ≤ dy → dy ≤ 2 → -2 ≤ dx → dx ≤ 2 → corr (qy + dy) (qx + dx) = corr (qy - dy) (qx - dx)) :
    (evaluate corr n m).cy = qy ∧ (evaluate corr n m).cx = qx ∧
    (evaluate corr n m).ry = (qy : ℚ) ∧ (evaluate corr n m).rx = (qx : ℚ) := by
  obtain ⟨h1, h2⟩ := strictMax_isMaxAt corr n m qy qx (two_inside qy n hqy).1 (two_inside qx m hqx).1 hstrict
  exact evaluate_symmetric_exact corr n m hn hm qy qx hqy hqx h1 h2 hsym

/-- an `Int`-indexed image read on the torus -/
def torus (H W : ℕ) (f : ℤ → ℤ → ℚ) : ZMod H × ZMod W → ℚ := fun p => f (p.1.val : ℤ) (p.2.val : ℤ)

/-- the mask centre the `ifftshift` selects -/
def tcentre (H W : ℕ) : ZMod H × ZMod W := ((((H : ℤ) / 2 : ℤ) : ZMod H), (((W : ℤ) / 2 : ℤ) : ZMod W))

/-- **the model's correlation map is the group correlation `gcorr` on the torus `ZMod H × ZMod W`**, mask centred on
`(H/2, W/2)`: the theorems about `gcorr` (`corr_symmetric`, `matched_disk_max`, `sign_matched_*`) are theorems about
`corrMap` -/
theorem corrMap_eq_gcorr (mask data : ℤ → ℤ → ℚ) (H W : ℕ) [NeZero H] [NeZero W] (y x : ℤ) :
    corrMap "fft.ifftshift" mask data H W y x
      = gcorr (tcentre H W) (torus H W mask) (torus H W data) ((y : ZMod H), (x : ZMod W)) := by
  have hs : ∀ (n : ℕ) (j : ℤ), ((shiftSrc "fft.ifftshift" n j : ℤ) : ZMod n) = (j : ZMod n) + ((n : ℤ) / 2 : ℤ) :=
    fun n j => by rw [shiftSrc_ifftshift, ZMod.intCast_mod, Int.cast_add]
  rw [corrMap_eq_sum, hs, hs, gcorr, Fintype.sum_prod_type]
  rfl

theorem cast_inj_range (n : ℕ) [NeZero n] (a b : ℤ) (ha : 0 ≤ a ∧ a < n) (hb : 0 ≤ b ∧ b < n)
    (h : (a : ZMod n) = (b : ZMod n)) : a = b := by
  rw [ZMod.intCast_eq_intCast_iff', Int.emod_eq_of_lt ha.1 ha.2, Int.emod_eq_of_lt hb.1 hb.2] at h
  exact h

theorem flatDisk_symmetric {G : Type} [AddCommGroup G] [DecidableEq G] (q : G) (S : Finset G) (A B : ℚ)
    (hS : ∀ u, u ∈ S ↔ -u ∈ S) (u : G) : flatDisk q S A B (q + u) = flatDisk q S A B (q - u) := by
  simp only [flatDisk, add_sub_cancel_left, sub_sub_cancel_left, ← hS]

/-- for a flat disk at `q` and a symmetric sign-matched template the model's correlation map is strictly largest at `q`
(`sign_matched_unique` through `corrMap_eq_gcorr`) and point-symmetric about `q` (`corr_symmetric`): the two hypotheses of `evaluate_strictmax_exact` -/
theorem flat_disk_strict_symmetric (mask data : ℤ → ℤ → ℚ) (H W : ℕ) [NeZero H] [NeZero W]
    (S : Finset (ZMod H × ZMod W)) (A B : ℚ) (hA : 0 < A) (qy qx : ℤ)
    (hqy : 0 ≤ qy ∧ qy < H) (hqx : 0 ≤ qx ∧ qx < W)
    (hS : ∀ u, u ∈ S ↔ -u ∈ S)
    (hmsym : ∀ u, torus H W mask (tcentre H W + u) = torus H W mask (tcentre H W - u))
    (hin : ∀ u ∈ S, 0 < torus H W mask (tcentre H W + u))
    (hout : ∀ u, u ∉ S → torus H W mask (tcentre H W + u) ≤ 0)
    (hshape : ∀ d : ZMod H × ZMod W, d ≠ 0 → ∃ u ∈ S, d - u ∉ S)
    (hdata : torus H W data = flatDisk ((qy : ZMod H), (qx : ZMod W)) S A B) :
    (∀ a b : ℤ, 0 ≤ a → a < H → 0 ≤ b → b < W → (a, b) ≠ (qy, qx) →
        corrMap "fft.ifftshift" mask data H W a b < corrMap "fft.ifftshift" mask data H W qy qx) ∧
    (∀ dy dx : ℤ, corrMap "fft.ifftshift" mask data H W (qy + dy) (qx + dx)
        = corrMap "fft.ifftshift" mask data H W (qy - dy) (qx - dx)) := by
  constructor
  · intro a b ha0 ha1 hb0 hb1 hne
    rw [corrMap_eq_gcorr, corrMap_eq_gcorr, hdata]
    refine sign_matched_unique (tcentre H W) _ (torus H W mask) S A B hA hS hin hout hshape _ fun h => hne ?_
    rw [cast_inj_range H a qy ⟨ha0, ha1⟩ hqy (congrArg Prod.fst h),
      cast_inj_range W b qx ⟨hb0, hb1⟩ hqx (congrArg Prod.snd h)]
  · intro dy dx
    rw [corrMap_eq_gcorr, corrMap_eq_gcorr, hdata]
    push_cast
    exact corr_symmetric (tcentre H W) (↑qy, ↑qx) (torus H W mask) _ hmsym (flatDisk_symmetric _ S A B hS) (↑dy, ↑dx)

/-- **end to end, for every sign-matched symmetric template**: the (log-scaled) data is a flat disk `q + S` of amplitude
`A > 0` on a uniform background, on an `H × W` map; the template is point-symmetric about its centre `(H/2, W/2)`,
positive on the disk pixels and not positive elsewhere (circular, radial-gradient, background-subtracting and user
templates of that kind); the disk is not mapped onto itself by a non-zero shift.  Then the evaluation kernels on the
model's correlation map report the integer centre `q` and a refined position exactly `q` — for every map size and
parity, every disk shape and every such template. -/
theorem flat_disk_exact (mask data : ℤ → ℤ → ℚ) (H W : ℕ) [NeZero H] [NeZero W]
    (S : Finset (ZMod H × ZMod W)) (A B : ℚ) (hA : 0 < A) (qy qx : ℤ)
    (hqy : 2 ≤ qy ∧ qy + 2 < H) (hqx : 2 ≤ qx ∧ qx + 2 < W)
    (hS : ∀ u, u ∈ S ↔ -u ∈ S)
    (hmsym : ∀ u, torus H W mask (tcentre H W + u) = torus H W mask (tcentre H W - u))
    (hin : ∀ u ∈ S, 0 < torus H W mask (tcentre H W + u))
    (hout : ∀ u, u ∉ S → torus H W mask (tcentre H W + u) ≤ 0)
    (hshape : ∀ d : ZMod H × ZMod W, d ≠ 0 → ∃ u ∈ S, d - u ∉ S)
    (hdata : torus H W data = flatDisk ((qy : ZMod H), (qx : ZMod W)) S A B) :
    let e := evaluate (corrMap "fft.ifftshift" mask data H W) H W
    e.cy = qy ∧ e.cx = qx ∧ e.ry = (qy : ℚ) ∧ e.rx = (qx : ℚ) := by
  obtain ⟨hstrict, hsym⟩ := flat_disk_strict_symmetric mask data H W S A B hA qy qx
    (two_inside qy H hqy).1 (two_inside qx W hqx).1 hS hmsym hin hout hshape hdata
  exact evaluate_strictmax_exact _ H W (Nat.pos_of_ne_zero (NeZero.ne H)) (Nat.pos_of_ne_zero (NeZero.ne W)) qy qx hqy hqx
    hstrict fun dy dx _ _ _ _ => hsym dy dx

/-- instances of the example below -/
def exS : Finset (ZMod 7 × ZMod 7) := {(0, 0), (1, 0), (6, 0), (0, 1), (0, 6)}
def exM : ℤ → ℤ → ℚ := fun y x =>
  if y = 3 ∧ x = 3 then 1 else if (y = 2 ∧ x = 3) ∨ (y = 4 ∧ x = 3) ∨ (y = 3 ∧ x = 2) ∨ (y = 3 ∧ x = 4) then 2 else -1
def exD : ℤ → ℤ → ℚ := fun y x => flatDisk (((2 : ℤ) : ZMod 7), ((4 : ℤ) : ZMod 7)) exS 5 1 ((y : ZMod 7), (x : ZMod 7))

/-- non-vacuity of `flat_disk_exact`: a 7×7 map, plus-shaped disk, a template that is larger on the rim than at the centre
(radial-gradient-like) with a negative surround; disk at pixel (2, 4) -/
example :
    let e := evaluate (corrMap "fft.ifftshift" exM exD 7 7) 7 7
    e.cy = 2 ∧ e.cx = 4 ∧ e.ry = 2 ∧ e.rx = 4 :=
  flat_disk_exact exM exD 7 7 exS 5 1 (by norm_num) 2 4 (by norm_num) (by norm_num)
    (by decide +kernel) (by decide +kernel) (by decide +kernel) (by decide +kernel) (by decide +kernel)
    (by
      funext p
      unfold torus exD
      simp)

/-- **the same through the composed crop-based pipeline**: if the window's correlation map has its
unique maximiser at window position `w` (≥ 2 px inside) and is point-symmetric about it on the 5×5
neighbourhood, `fastPeak` reports centre `start − c + w` and the refined position equals it exactly -/
theorem fastPeak_symmetric_exact (L : ℚ → ℚ) (mask frame : ℤ → ℤ → ℚ) (fy fx : ℤ) (c : ℕ) (hc : 0 < c)
    (start : ℤ × ℤ) (wy wx : ℤ) (hwy : 2 ≤ wy ∧ wy + 2 < 2 * c) (hwx : 2 ≤ wx ∧ wx + 2 < 2 * c)
    (hmaxq : IsMaxAt (fastCorr L mask frame fy fx c start) (2 * c : ℕ) (2 * c : ℕ) wy wx)
    (huniq : ∀ y x y' x' : ℤ, IsMaxAt (fastCorr L mask frame fy fx c start) (2 * c : ℕ) (2 * c : ℕ) y x →
      IsMaxAt (fastCorr L mask frame fy fx c start) (2 * c : ℕ) (2 * c : ℕ) y' x' → y = y' ∧ x = x')
    (hsym : ∀ dy dx : ℤ, -2 ≤ dy → dy ≤ 2 → -2 ≤ dx → dx ≤ 2 →
      fastCorr L mask frame fy fx c start (wy + dy) (wx + dx) = fastCorr L mask frame fy fx c start (wy - dy) (wx - dx)) :
    let e := fastPeak L mask frame fy fx c start
    e.cy = start.1 - c + wy ∧ e.cx = start.2 - c + wx ∧ e.ry = ((start.1 - c + wy : ℤ) : ℚ) ∧ e.rx = ((start.2 - c + wx : ℤ) : ℚ) :=
  reanchor_exact _ _ _ (evaluate_symmetric_exact (fastCorr L mask frame fy fx c start) (2 * c) (2 * c)
    (Nat.mul_pos two_pos hc) (Nat.mul_pos two_pos hc) wy wx hwy hwx hmaxq huniq hsym)

/-- **`flat_disk_exact` through the composed crop-based pipeline** (`process_frame_fast` for one peak): if the
log-scaled crop of the window around `start` is a flat disk at window position `w` (≥ 2 px inside the window) and the
template is symmetric and sign-matched, the reported centre and the refined position are exactly `start − c + w`, the
disk's frame position — for every crop size, start position and such template -/
theorem fastPeak_flat_disk_exact (L : ℚ → ℚ) (mask frame : ℤ → ℤ → ℚ) (fy fx : ℤ) (c : ℕ) (hc : 0 < c)
    (start : ℤ × ℤ) (S : Finset (ZMod (2 * c) × ZMod (2 * c))) (A B : ℚ) (hA : 0 < A) (wy wx : ℤ)
    (hwy : 2 ≤ wy ∧ wy + 2 < 2 * c) (hwx : 2 ≤ wx ∧ wx + 2 < 2 * c)
    (hS : ∀ u, u ∈ S ↔ -u ∈ S)
    (hmsym : ∀ u, torus (2 * c) (2 * c) mask (tcentre (2 * c) (2 * c) + u) = torus (2 * c) (2 * c) mask (tcentre (2 * c) (2 * c) - u))
    (hin : ∀ u ∈ S, 0 < torus (2 * c) (2 * c) mask (tcentre (2 * c) (2 * c) + u))
    (hout : ∀ u, u ∉ S → torus (2 * c) (2 * c) mask (tcentre (2 * c) (2 * c) + u) ≤ 0)
    (hshape : ∀ d : ZMod (2 * c) × ZMod (2 * c), d ≠ 0 → ∃ u ∈ S, d - u ∉ S)
    (hdata : torus (2 * c) (2 * c)
        (logCrop L (fun y x => cropPixel frame fy fx c start.1 start.2 y x) ((2 * c : ℕ) : ℤ) ((2 * c : ℕ) : ℤ))
      = flatDisk ((wy : ZMod (2 * c)), (wx : ZMod (2 * c))) S A B) :
    let e := fastPeak L mask frame fy fx c start
    e.cy = start.1 - c + wy ∧ e.cx = start.2 - c + wx ∧
      e.ry = ((start.1 - c + wy : ℤ) : ℚ) ∧ e.rx = ((start.2 - c + wx : ℤ) : ℚ) :=
  have : NeZero (2 * c) := ⟨(Nat.mul_pos two_pos hc).ne'⟩
  reanchor_exact _ _ _ (flat_disk_exact mask _ (2 * c) (2 * c) S A B hA wy wx hwy hwx hS hmsym hin hout hshape hdata)

/-- **`flat_disk_exact` through the composed full-frame pipeline** (`process_frame_full` for one peak): the log-scaled
frame is a flat disk on pixel `q`, the frame-sized template is symmetric and sign-matched; for every start position whose
window lies inside the frame and contains `q` at least 2 px from its border, centre and refined position are exactly `q` -/
theorem fullPeak_flat_disk_exact (L : ℚ → ℚ) (mask frame : ℤ → ℤ → ℚ) (H W : ℕ) [NeZero H] [NeZero W] (c : ℕ) (hc : 0 < c)
    (start : ℤ × ℤ) (S : Finset (ZMod H × ZMod W)) (A B : ℚ) (hA : 0 < A) (qy qx : ℤ)
    (hwy : (c : ℤ) ≤ start.1 ∧ start.1 + c ≤ H) (hwx : (c : ℤ) ≤ start.2 ∧ start.2 + c ≤ W)
    (hqy : 2 ≤ qy - (start.1 - c) ∧ qy - (start.1 - c) + 2 < 2 * c)
    (hqx : 2 ≤ qx - (start.2 - c) ∧ qx - (start.2 - c) + 2 < 2 * c)
    (hS : ∀ u, u ∈ S ↔ -u ∈ S)
    (hmsym : ∀ u, torus H W mask (tcentre H W + u) = torus H W mask (tcentre H W - u))
    (hin : ∀ u ∈ S, 0 < torus H W mask (tcentre H W + u))
    (hout : ∀ u, u ∉ S → torus H W mask (tcentre H W + u) ≤ 0)
    (hshape : ∀ d : ZMod H × ZMod W, d ≠ 0 → ∃ u ∈ S, d - u ∉ S)
    (hdata : torus H W (logFrame L frame H W) = flatDisk ((qy : ZMod H), (qx : ZMod W)) S A B) :
    let e := fullPeak L mask frame H W c start
    e.cy = qy ∧ e.cx = qx ∧ e.ry = (qy : ℚ) ∧ e.rx = (qx : ℚ) := by
  -- `w`: the position of `q` in the window
  obtain ⟨wy, rfl⟩ : ∃ wy, qy = start.1 - c + wy := ⟨_, (add_sub_cancel _ _).symm⟩
  obtain ⟨wx, rfl⟩ : ∃ wx, qx = start.2 - c + wx := ⟨_, (add_sub_cancel _ _).symm⟩
  rw [add_sub_cancel_left] at hqy hqx
  have hpos : 0 < 2 * c := Nat.mul_pos two_pos hc
  -- the window lies inside the frame, so the crop of the map is a window of the map
  have hwin : ∀ y x : ℤ, 0 ≤ y ∧ y < (2 * c : ℕ) → 0 ≤ x ∧ x < (2 * c : ℕ) →
      0 ≤ start.1 - c + y ∧ start.1 - c + y < H ∧ 0 ≤ start.2 - c + x ∧ start.2 - c + x < W := by omega
  obtain ⟨q1, q2, q3, q4⟩ := hwin wy wx (two_inside wy _ hqy).1 (two_inside wx _ hqx).1
  obtain ⟨hstrict, hsym⟩ := flat_disk_strict_symmetric mask (logFrame L frame H W) H W S A B hA _ _ ⟨q1, q2⟩ ⟨q3, q4⟩
    hS hmsym hin hout hshape hdata
  have hag : AgreeOn (fun y x => cropPixel (fullCorr L mask frame H W) H W c start.1 start.2 y x)
      (fun y x => fullCorr L mask frame H W (start.1 - c + y) (start.2 - c + x)) (2 * c) (2 * c) :=
    fun y x hy0 hy1 hx0 hx1 => C13.cropPixel_inside (hwin y x ⟨hy0, hy1⟩ ⟨hx0, hx1⟩)
  refine reanchor_exact start.1 start.2 c ?_
  rw [evaluate_congr _ _ _ _ (by omega) (by omega) hag]
  -- strict maximum and symmetry of the map, read on the window
  refine evaluate_strictmax_exact _ (2 * c) (2 * c) hpos hpos wy wx hqy hqx (fun a b ha0 ha1 hb0 hb1 hne => ?_)
    fun dy dx _ _ _ _ => ?_
  · obtain ⟨h1, h2, h3, h4⟩ := hwin a b ⟨ha0, ha1⟩ ⟨hb0, hb1⟩
    refine hstrict _ _ h1 h2 h3 h4 fun h => hne ?_
    rw [Prod.mk.injEq] at h ⊢
    omega
  · simp only [← add_assoc, ← add_sub_assoc]
    exact hsym dy dx

/-- the upsampling step uses the correlation-map centre `ceil(n/2)`, which is exactly the offset
that undoes the `ifftshift` for even *and odd* sizes: map index `j` ↔ signed shift `j − ceil(n/2)` -/
theorem upsample_center_matches_shift (n j : ℤ) (hn : 0 < n) :
    Gen.us_corr_center n = n - n / 2 ∧
    shiftSrc "fft.ifftshift" n j = (j - Gen.us_corr_center n) % n := by
  have hc := us_corr_center_eq n
  refine ⟨hc, ?_⟩
  rw [hc, shiftSrc_ifftshift, show j + n / 2 = j - (n - n / 2) + n by ring, Int.add_emod_right]

/-- the centring facts of C16 this property relies on, for every size -/
theorem centring_chain (n target source : ℤ) (ht : 1 ≤ target) (hs : 1 ≤ source) :
    Gen.mask_center n = n / 2 ∧ utIndex target source (target / 2) = some (source / 2) :=
  ⟨C16.mask_center_floor n, C16.ut_center_maps target source ht hs⟩

end C01
