import BlobfinderModel.Properties.C06
/-!
# C20 — affine transformation helpers round-trip and find the fixed point

`get_transformation` solves, for each output column, a weighted least-squares problem with
design rows `(u, v, 1) = (ref - centre, 1)`, targets `peaks - centre` (resp. `1`) and rows
multiplied by the weights (so the weights enter **squared**).  This is the WLS model of C06 with
`i := u`, `j := v`, constant column = `z`, and `w := weight²`.
-/
namespace C20
open Model

/-- **Exact affine relation ⇒ exact reproduction**: if the targets are exactly affine in the
reference coordinates, any solution of the (squared-)weighted normal equations with positive
weights reproduces every target exactly, for any centre (it only shifts `u, v`) and any positive
weights — no rank condition is needed for this direction. -/
theorem transformation_exact (l : List Obs) (hw : ∀ o ∈ l, 0 < o.w) (z0 a0 b0 : ℚ)
    (hexact : ∀ o ∈ l, o.t = z0 + o.i * a0 + o.j * b0) (z al be : ℚ) (hN : NormalEqs z al be l) :
    ∀ o ∈ l, z + o.i * al + o.j * be = o.t := by
  have hw' : ∀ o ∈ l, 0 ≤ o.w := fun o ho => (hw o ho).le
  -- the objective vanishes at `(z0, a0, b0)`, so it is `≤ 0` at the optimum: every term `w r²` is zero
  have h0 : wss z0 a0 b0 l = 0 :=
    lsum_map_eq_zero l _ fun o ho => by
      unfold resid
      rw [hexact o ho]
      ring
  have hle : wss z al be l ≤ 0 := h0 ▸ C06.lsq_optimal l hw' z al be hN z0 a0 b0
  intro o ho
  have h := eq_zero_of_lsum_map_nonpos l _ (fun o ho => mul_nonneg (hw' o ho) (sq_nonneg _)) hle o ho
  have hr : resid z al be o = 0 := (pow_eq_zero_iff two_ne_zero).mp ((mul_eq_zero.mp h).resolve_left (hw o ho).ne')
  exact (sub_eq_zero.mp hr).symm

/-- with residuals the fit is the least-squares optimum for the **squared** weights
(`w = weight²` in the observations), by C06 -/
theorem transformation_optimal (l : List Obs) (hw : ∀ o ∈ l, 0 ≤ o.w) (z al be : ℚ)
    (hN : NormalEqs z al be l) (z' al' be' : ℚ) : wss z al be l ≤ wss z' al' be' l :=
  C06.lsq_optimal l hw z al be hN z' al' be'

/-- **`find_center` returns the fixed point**: if `c'` solves `(M - diag(1,1,0))ᵀ c' = e₃` for a
homogeneous matrix `M` (third column `(0,0,1)ᵀ`, acting on row vectors), then `c'₃ = 1` and
`[c'₁, c'₂, 1] · M = [c'₁, c'₂, 1]`. -/
theorem find_center_fixed_point (m00 m01 m10 m11 m20 m21 c0 c1 c2 : ℚ)
    (h0 : (m00 - 1) * c0 + m10 * c1 + m20 * c2 = 0)
    (h1 : m01 * c0 + (m11 - 1) * c1 + m21 * c2 = 0)
    (h2 : 0 * c0 + 0 * c1 + (1 - 0) * c2 = 1) :
    c2 = 1 ∧ c0 * m00 + c1 * m10 + 1 * m20 = c0 ∧ c0 * m01 + c1 * m11 + 1 * m21 = c1 := by
  have hc2 : c2 = 1 := by linear_combination h2
  subst hc2
  exact ⟨rfl, by linear_combination h0, by linear_combination h1⟩

/-- non-vacuity of `transformation_exact`: three non-collinear points, weights 1, 4, 9 -/
example : NormalEqs 1 2 3 [⟨0, 0, 1, 1⟩, ⟨1, 0, 4, 3⟩, ⟨0, 1, 9, 4⟩] := by
  unfold NormalEqs
  decide +kernel

end C20
