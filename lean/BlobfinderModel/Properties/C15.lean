import BlobfinderModel.Properties.C08
import BlobfinderModel.Model.DType
import BlobfinderModel.Gen.Eval
import BlobfinderModel.Proofs.Scalar
/-!
# C15 — frame dtype does not matter  (partial: integer-range logic)
Proved: frames are promoted to a float dtype *before* `x − min + 1` is formed (source pinned), the
promoted dtype is float32 for 8/16-bit integers and float64 for wider ones, and in that dtype the
log argument of integer data is represented exactly (no wrap-around, no rounding) for the whole range
of 8/16-bit types and for values up to 2²⁴ of wider types — so it equals what float64 input gives.
Residual (A-FLOAT, oracle): equality "to float32 rounding" of the results after log / FFT.
-/
namespace C15
open Model

theorem hi_sub_lo (d : DType) : d.hi - d.lo + 1 = 2 ^ d.bits := by cases d <;> rfl

/-- `np.result_type(d, np.float32)` of an integer dtype: float32 up to 16 bits, float64 above. -/
theorem promote_int (d : DType) (hd : d.isInt = true) : promote d = if d.bits ≤ 16 then .f4 else .f8 := by
  revert hd
  cases d <;> decide

/-- the promotion result is always a float dtype -/
theorem promoted_is_float (d : DType) : (promote d).isInt = false := by cases d <;> rfl

/-- where the cast happens: inside `log_scale` before the subtraction, and the crop buffers of the
crop-based batch entry point are allocated in the promoted dtype (repairs of D3) -/
theorem cast_before_subtract :
    Gen.log_dtype = "np.result_type(data.dtype, np.float32)" ∧
    (∀ x m : ℚ, Gen.log_arg x m = x - m + 1) ∧
    Gen.fast_crop_bufs_alloc = "correlation.allocate_crop_bufs(crop_size, len(peaks), np.result_type(frames.dtype, np.float32))" ∧
    Gen.full_frame_buf_alloc = "correlation.zeros(frames[0].shape, dtype=np.float32)" := by
  refine ⟨rfl, ?_, rfl, rfl⟩
  intro x m
  unfold Gen.log_arg
  ring

/-- **8- and 16-bit integer frames: for *all* values `v` and minima `m` of the dtype the log argument
`v − m + 1` is exactly representable in the promoted dtype (float32)** -/
theorem log_arg_exact_small (d : DType) (hd : d.isInt = true) (hb : d.bits ≤ 16) (v m : ℤ)
    (hv : d.lo ≤ v ∧ v ≤ d.hi) (hm : d.lo ≤ m ∧ m ≤ d.hi) (hmv : m ≤ v) :
    promote d = .f4 ∧ exactIn (promote d) (v - m + 1) ∧ 1 ≤ v - m + 1 := by
  -- `v - m + 1` is at most the number of values of the dtype, `2 ^ bits < 2 ^ 17`
  have hr := hi_sub_lo d
  have hp : (2 : ℤ) ^ d.bits < 2 ^ 17 := Int.pow_lt_pow_of_lt (by decide) (Nat.lt_succ_of_le hb)
  rw [promote_int d hd, if_pos hb]
  refine ⟨rfl, ?_⟩
  simp only [exactIn, mantissa]
  omega

/-- wider integer frames with values up to 2²⁴ are promoted to float64, where the argument is exact -/
theorem log_arg_exact_wide (d : DType) (hd : d.isInt = true) (hb : 32 ≤ d.bits) (v m : ℤ)
    (hv : -(2 ^ 24 : ℤ) ≤ v ∧ v ≤ 2 ^ 24) (hm : -(2 ^ 24 : ℤ) ≤ m ∧ m ≤ 2 ^ 24) (hmv : m ≤ v) :
    promote d = .f8 ∧ exactIn (promote d) (v - m + 1) ∧ 1 ≤ v - m + 1 := by
  rw [promote_int d hd, if_neg (by omega)]
  refine ⟨rfl, ?_⟩
  simp only [exactIn, mantissa]
  omega

/-- Defect D3 (pre-repair, arithmetic in the input dtype): `255 − 0 + 1` wraps to 0 in uint8 (log 0 =
−inf), `127 − (−128)` wraps in int8; after the cast nothing wraps -/
theorem uint8_prefix_counterexample :
    wrap .u1 (255 - 0 + 1) = 0 ∧ wrap .i1 (127 - (-128)) = -1 ∧ wrap .u2 (65535 - 0 + 1) = 0 := by decide

/-- values inside the range are not changed by storing them in the dtype -/
theorem wrap_id (d : DType) (hd : d.isInt = true) (v : ℤ) (hv : d.lo ≤ v ∧ v ≤ d.hi) : wrap d v = v := by
  -- in range means: already reduced modulo `2 ^ bits` (after the shift by half the range, if signed)
  have hbits : 0 < d.bits := by cases d <;> decide
  -- half the range twice is the range
  have h2 : (2 : ℤ) ^ (d.bits - 1) - 2 ^ d.bits = -2 ^ (d.bits - 1) := Int.two_pow_pred_sub_two_pow' hbits
  unfold DType.lo DType.hi at hv
  unfold wrap
  split at hv
  next hs =>
    rw [if_pos hs, Int.emod_eq_of_lt (by omega) (by omega)]
    omega
  next hs =>
    rw [if_neg hs]
    exact Int.emod_eq_of_lt hv.1 (by omega)

/-- equal log arguments give equal centres: the evaluation only sees the log-scaled data (C03) -/
theorem same_arg_same_result (x m x' m' : ℚ) (h : x - m = x' - m') : Gen.log_arg x m = Gen.log_arg x' m' := by
  unfold Gen.log_arg; linarith

/-- **the frame dtype changes the number of blocks, not the results.**  `process_frames_fast` sizes its crop buffers from
the promoted dtype (`get_buf_count` with itemsize 4 for 8/16-bit and float32 frames, 8 for wider ones), so the same peak list
is processed in another number of blocks; for every per-peak function, every peak list and both item sizes the block loop
writes the same outputs (C08: the buffer count is irrelevant, and `get_buf_count` is always a valid one). -/
theorem blocks_of_dtype_irrelevant {α β : Type} (f : α → β) (peaks : Int → α) (n c limit : Int) (hn : 1 ≤ n)
    (out : Int → β) :
    runBlocks fastArith f peaks n (Gen.get_buf_count c n 4 limit) out
      = runBlocks fastArith f peaks n (Gen.get_buf_count c n 8 limit) out := by
  have h4 := (C08.buf_count_bounds c n 4 limit hn).1
  have h8 := (C08.buf_count_bounds c n 8 limit hn).1
  exact C08.buffer_count_irrelevant C08.fast_good f peaks n _ _ (by omega) (by omega) (by omega) out

theorem f32int_exact (n : ℤ) (lo : -(2 ^ 24 : ℤ) ≤ n) (hi : n ≤ 2 ^ 24) : f32int n = some n :=
  if_pos ⟨lo, hi⟩

/-- **the log argument of a float32 crop buffer is exact**: for integer values `m ≤ x` of magnitude at most 2^24 whose
difference stays below 2^24, evaluating `(x - m) + 1` (the order written in `log_scale_cropbufs_inplace`,
`Gen.cropbuf_log_arg`) in float32 gives exactly `x - m + 1` — the same number the float64 route computes, so the two
routes take the logarithm of the same argument -/
theorem cropbuf_arg_exact_f32 (x m : ℤ) (hm : m ≤ x) (hx : x ≤ 2 ^ 24) (hm' : -(2 ^ 24 : ℤ) ≤ m)
    (hd : x - m < 2 ^ 24) : cropArgF32 x m = some (x - m + 1) := by
  unfold cropArgF32
  rw [f32int_exact (x - m) (by omega) (Int.le_of_lt hd), Option.bind_some,
    f32int_exact (x - m + 1) (by omega) (Int.add_one_le_of_lt hd)]

/-- the written order agrees with the translated expression -/
theorem cropbuf_arg_order (x m : ℚ) : Gen.cropbuf_log_arg x m = (x - m) + 1 := rfl

/-- **the order matters**: with the 1 added to the data first, the value 2^24 on a minimum of 2^24 - 4 gives the argument 4
instead of 5 (`2^24 + 1` is not a float32) — which is why the source subtracts the minimum first -/
theorem plus_one_first_inexact :
    cropArgF32 (2 ^ 24) (2 ^ 24 - 4) = some 5 ∧ cropArgF32PlusFirst (2 ^ 24) (2 ^ 24 - 4) = some 4 := by
  decide +kernel

end C15
