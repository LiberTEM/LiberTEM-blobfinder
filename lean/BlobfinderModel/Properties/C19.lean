import BlobfinderModel.Properties.C16
/-!
# C19 — sparse mask stacks equal dense stamping with clipping
-/
namespace C19
open Model

/-- **Each layer equals a zero image into which the template has been copied with its top-left
corner at the offset, clipped at the image border** (empty if entirely outside): for every
template size, image size, offset and pixel. -/
theorem stamp_dense_eq (tmpl : ℤ → ℤ → ℚ) (th tw oy ox sy sx y x : ℤ) (hth : 0 ≤ th) (htw : 0 ≤ tw) :
    stampDense tmpl th tw oy ox sy sx y x
      = if (0 ≤ y - oy ∧ y - oy < th ∧ 0 ≤ x - ox ∧ x - ox < tw) ∧ (0 ≤ y ∧ y < sy ∧ 0 ≤ x ∧ x < sx)
        then tmpl (y - oy) (x - ox) else 0 := by
  have hsel : ∀ cy cx : ℤ, Gen.stamp_sel cy cx sy sx = true ↔ (0 ≤ cy ∧ cy < sy ∧ 0 ≤ cx ∧ cx < sx) := by
    intro cy cx
    simp only [Gen.stamp_sel, Bool.and_eq_true, decide_eq_true_eq, ge_iff_le, and_assoc]
  unfold stampDense
  simp only [hsel]
  obtain ⟨th, rfl⟩ := Int.eq_ofNat_of_zero_le hth
  obtain ⟨tw, rfl⟩ := Int.eq_ofNat_of_zero_le htw
  rw [Int.toNat_natCast, Int.toNat_natCast]
  split_ifs with hc
  · -- exactly the template cell `(a, b) = (y - oy, x - ox)` lands on `(y, x)`
    obtain ⟨a, ha⟩ := Int.eq_ofNat_of_zero_le hc.1.1
    obtain ⟨b, hb⟩ := Int.eq_ofNat_of_zero_le hc.1.2.2.1
    rw [ha, hb] at hc ⊢
    obtain rfl := eq_add_of_sub_eq ha
    obtain rfl := eq_add_of_sub_eq hb
    obtain ⟨⟨-, hath, -, hbtw⟩, hs⟩ := hc
    rw [lsum_eq_sum, sum_range_single _ a, if_pos (Nat.cast_lt.mp hath), lsum_eq_sum,
      sum_range_single _ b, if_pos (Nat.cast_lt.mp hbtw), if_pos ⟨hs, rfl, rfl⟩]
    · intro k _ hk
      exact if_neg fun h => hk (by omega)
    · intro k _ hk
      exact lsum_map_eq_zero _ _ fun tx _ => if_neg fun h => hk (by omega)
  · -- no template cell does: one that did would make `hc` true
    refine lsum_map_eq_zero _ _ fun ty hty => lsum_map_eq_zero _ _ fun tx htx => if_neg ?_
    rintro ⟨hs, rfl, rfl⟩
    rw [List.mem_range] at hty htx
    exact hc ⟨by omega, hs⟩

/-- the feature-vector stack places the mask's centre pixel on each peak: offset + centre of a
`(2c+1)`-sized mask = peak -/
theorem feature_vector_center (peak c : ℤ) (hc : 0 ≤ c) :
    Gen.fv_offset peak c + Gen.mask_center (Gen.fv_size c) = peak := by
  unfold Gen.fv_offset Gen.fv_size
  rw [C16.mask_center_floor]; omega

/-- the sparse circular stack uses an odd bounding box centred on `ceil(radius)` … -/
theorem sparse_circular_bbox (radius : ℚ) (hr : 0 ≤ radius) :
    Gen.sc_center (Gen.sc_bbox radius) = radius.ceil ∧ Gen.sc_bbox radius = 2 * radius.ceil + 1 := by
  unfold Gen.sc_center Gen.sc_bbox
  rw [C16.fdiv_two]; omega

/-- … which loses nothing of the disk: a pixel offset `(dy, dx)` inside the non-antialiased disk
lies inside the bounding box. -/
theorem sparse_circular_eq_dense (radius : ℚ) (hr : 0 ≤ radius) (dy dx : ℤ)
    (hin : Gen.disk_in (dy : ℚ) (dx : ℚ) radius = true) :
    -radius.ceil ≤ dy ∧ dy ≤ radius.ceil ∧ -radius.ceil ≤ dx ∧ dx ≤ radius.ceil := by
  unfold Gen.disk_in at hin
  rw [decide_eq_true_eq] at hin
  -- `d² ≤ d² + e² ≤ r²` gives `|d| ≤ r ≤ ⌈r⌉`, an inequality of integers
  have key : ∀ d e : ℤ, (d : ℚ) * d + e * e ≤ radius * radius → -radius.ceil ≤ d ∧ d ≤ radius.ceil := by
    intro d e h
    have h2 : (d : ℚ) * d ≤ radius * radius := by linarith [mul_self_nonneg (e : ℚ)]
    have hd : |(d : ℚ)| ≤ |radius| := abs_le_iff_mul_self_le.mpr h2
    rw [abs_of_nonneg hr] at hd
    have hc := hd.trans Rat.le_ceil
    rwa [← Int.cast_abs, Int.cast_le, abs_le] at hc
  rw [← and_assoc]
  exact ⟨key dy dx hin, key dx dy ((add_comm _ _).trans_le hin)⟩

/-- non-vacuity: a 2×3 template of distinct values stamped at (-1, 2) into a 3×4 image -/
example : stampDense (fun a b => 10 * a + b + 1) 2 3 (-1) 2 3 4 0 3 = 12
    ∧ stampDense (fun a b => 10 * a + b + 1) 2 3 (-1) 2 3 4 1 3 = 0 := by
  constructor <;> decide +kernel

end C19
