import BlobfinderModel.Proofs.Crop
import Mathlib.Tactic.SplitIfs
/-!
# C13 — cropping returns the zero-padded window around each peak (both back-ends)

All theorems quantify over every frame size `fy fx ≥ 0`, every crop buffer size `h w ≥ 0`
(the code uses `h = w = 2 * crop_size`), every crop size `c`, every integer peak `(p0, p1)`,
every frame content and every previous buffer content `old`.
The scalar definitions in `Gen` are regenerated from the Python source on every run.
-/
namespace C13
open Model

variable {α : Type} [OfNat α 0]

/-- Per-pixel back-end: the cell `(y, x)` of the buffer is the frame value at row
`p0 - c + y`, column `p1 - c + x`, and zero wherever that lies outside the frame. -/
theorem cropPixel_eq_window (frame : Int → Int → α) (fy fx c p0 p1 y x : Int) :
    cropPixel frame fy fx c p0 p1 y x = window frame fy fx (p0 - c + y) (p1 - c + x) := by
  -- `Gen.crop_cell` is regenerated on every run, and the proof has to hold for any behaviour-preserving spelling of the
  -- kernel (test negated, branches swapped, `and` for `or`).  Hence every `if` is split and the alternatives are tried
  -- in turn, not assigned to branches, and `Bool.and_eq_true` is listed though the present kernel has no `and`.
  unfold cropPixel Gen.crop_cell window
  simp only [Bool.or_eq_true, Bool.and_eq_true, decide_eq_true_eq]
  by_cases hin : 0 ≤ p0 - c + y ∧ p0 - c + y < fy ∧ 0 ≤ p1 - c + x ∧ p1 - c + x < fx
  · rw [if_pos hin]
    split_ifs <;> first
      | (exfalso; omega)
      | (congr 1 <;> omega)
  · rw [if_neg hin]
    split_ifs <;> first
      | (exfalso; omega)
      | rfl

theorem cropPixel_inside {frame : Int → Int → α} {fy fx c p0 p1 y x : Int}
    (hin : 0 ≤ p0 - c + y ∧ p0 - c + y < fy ∧ 0 ≤ p1 - c + x ∧ p1 - c + x < fx) :
    cropPixel frame fy fx c p0 p1 y x = frame (p0 - c + y) (p1 - c + x) :=
  (cropPixel_eq_window frame fy fx c p0 p1 y x).trans (if_pos hin)

/-- The per-pixel back-end never reads the frame outside `[0, fy) × [0, fx)`:
its result is unchanged by any modification of `frame` outside the frame. -/
theorem cropPixel_reads_in_bounds (frame frame' : Int → Int → α) (fy fx c p0 p1 y x : Int)
    (hagree : ∀ yy xx, 0 ≤ yy → yy < fy → 0 ≤ xx → xx < fx → frame yy xx = frame' yy xx) :
    cropPixel frame fy fx c p0 p1 y x = cropPixel frame' fy fx c p0 p1 y x := by
  rw [cropPixel_eq_window, cropPixel_eq_window]
  exact ite_congr rfl (fun h => hagree _ _ h.1 h.2.1 h.2.2.1 h.2.2.2) (fun _ => rfl)

/-- Slicing back-end: the slice assignment is well-formed (target and source slices have
equal lengths on both axes), so NumPy neither raises nor broadcasts. -/
theorem cropSlice_shapes_ok (fy fx c p0 p1 h w : Int) (hfy : 0 ≤ fy) (hfx : 0 ≤ fx)
    (hh : 0 ≤ h) (hw : 0 ≤ w) :
    cropSliceShapesOk fy fx c p0 p1 h w = true := by
  simp only [cropSliceShapesOk, normBounds_closed fy fx c p0 p1 h w hh hw, Bool.and_eq_true,
    decide_eq_true_eq]
  exact ⟨axis_len fy h (p0 - c), axis_len fx w (p1 - c)⟩

/-- The slice assignment stays inside the buffer and inside the frame: no out-of-bounds
read or write (the normalised bounds are within `[0, h] × [0, w]` and `[0, fy] × [0, fx]`). -/
theorem cropSlice_in_bounds (fy fx c p0 p1 h w : Int) (hfy : 0 ≤ fy) (hfx : 0 ≤ fx)
    (hh : 0 ≤ h) (hw : 0 ≤ w) :
    let n := normBounds fy fx c p0 p1 h w
    0 ≤ n.tyl ∧ n.tyl ≤ h ∧ 0 ≤ n.tyh ∧ n.tyh ≤ h ∧ 0 ≤ n.txl ∧ n.txl ≤ w ∧ 0 ≤ n.txh ∧ n.txh ≤ w ∧
    0 ≤ n.syl ∧ n.syl ≤ fy ∧ 0 ≤ n.syh ∧ n.syh ≤ fy ∧ 0 ≤ n.sxl ∧ n.sxl ≤ fx ∧ 0 ≤ n.sxh ∧ n.sxh ≤ fx := by
  simp only [normBounds_closed fy fx c p0 p1 h w hh hw, clamp_nonneg, Int.min_le_right, hfy, hfx, hh,
    hw, and_self]

/-- The code zero-fills each crop before the slice copy (repair of defect D1). -/
theorem slicing_zero_fills : Gen.sl_zero_fill = true := by decide

/-- Slicing back-end = window specification, element for element, for every previous
content `old` of the buffer. -/
theorem cropSlice_eq_window (old frame : Int → Int → α) (fy fx c p0 p1 h w y x : Int)
    (hy : 0 ≤ y) (hyh : y < h) (hx : 0 ≤ x) (hxw : x < w) :
    cropSlice old frame fy fx c p0 p1 h w y x
      = window frame fy fx (p0 - c + y) (p1 - c + x) := by
  have hh : 0 ≤ h := by omega
  have hw : 0 ≤ w := by omega
  simp only [cropSlice, cropSliceZ, slicing_zero_fills, normBounds_closed fy fx c p0 p1 h w hh hw,
    window, if_true, axis_lo hy hyh, axis_lo hx hxw, axis_hi hy hyh,
    axis_hi hx hxw]
  refine ite_congr rfl (fun hin => ?_) (fun _ => rfl)
  rw [axis_src fy h (p0 - c) y hy hyh hin.1 hin.2.1, axis_src fx w (p1 - c) x hx hxw hin.2.2.1 hin.2.2.2]

/-- The two back-ends agree element for element, whatever the buffer held before. -/
theorem cropSlice_eq_cropPixel (old frame : Int → Int → α) (fy fx c p0 p1 h w y x : Int)
    (hfy : 0 ≤ fy) (hfx : 0 ≤ fx) (hy : 0 ≤ y) (hyh : y < h) (hx : 0 ≤ x) (hxw : x < w) :
    cropSlice old frame fy fx c p0 p1 h w y x = cropPixel frame fy fx c p0 p1 y x := by
  rw [cropSlice_eq_window old frame fy fx c p0 p1 h w y x hy hyh hx hxw,
    cropPixel_eq_window]

/-- A window entirely outside the frame yields an all-zero crop (both back-ends). -/
theorem crop_outside_zero (old frame : Int → Int → α) (fy fx c p0 p1 h w y x : Int)
    (hfy : 0 ≤ fy) (hfx : 0 ≤ fx) (hy : 0 ≤ y) (hyh : y < h) (hx : 0 ≤ x) (hxw : x < w)
    (hout : p0 - c + h ≤ 0 ∨ fy ≤ p0 - c ∨ p1 - c + w ≤ 0 ∨ fx ≤ p1 - c) :
    cropSlice old frame fy fx c p0 p1 h w y x = 0 ∧ cropPixel frame fy fx c p0 p1 y x = 0 := by
  rw [cropSlice_eq_cropPixel old frame fy fx c p0 p1 h w y x hfy hfx hy hyh hx hxw,
    cropPixel_eq_window, and_self]
  exact if_neg (by omega)

/-- Defect D1 (pre-repair code, `zf = false`): without the zero fill the result depends on the
previous buffer content — 6×6 frame, crop size 2, peak (0,0), cell (0,0) keeps the stale 7. -/
theorem cropSlice_prefix_counterexample :
    cropSliceZ (α := Int) false (fun _ _ => 7) (fun y x => 6 * y + x + 1) 6 6 2 0 0 4 4 0 0 = 7
    ∧ window (α := Int) (fun y x => 6 * y + x + 1) 6 6 (0 - 2 + 0) (0 - 2 + 0) = 0 := by
  decide

/-- Non-vacuity: the hypotheses of the theorems above are met by the unit-test geometry. -/
example : cropSlice (α := Int) (fun _ _ => 7) (fun y x => 6 * y + x + 1) 6 6 2 0 0 4 4 0 0 = 0
    ∧ cropSlice (α := Int) (fun _ _ => 7) (fun y x => 6 * y + x + 1) 6 6 2 0 0 4 4 2 3 = 2 := by
  decide

end C13
