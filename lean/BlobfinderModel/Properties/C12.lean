import BlobfinderModel.Proofs.FastExact
import BlobfinderModel.Model.Fullmatch
import BlobfinderModel.Model.Tumble
import BlobfinderModel.Proofs.AngleCheck
import BlobfinderModel.Proofs.Fom
/-!
# C12 — full matching partitions the peaks and returns self-consistent matches  (partial)

Proved for the control skeleton (any oracle for the best-match search, any number of iterations):
the weak set is exactly the peaks below `min_weight`; every other non-zero peak is either unmatched
or in exactly one match; weak non-zero peaks are in neither; the zero point is not reported as
unmatched once a match exists; each matching step removes the matched non-zero peaks from the
working set (progress measure).  The post-conditions of a returned match come from the final
`check` after the final `weighted_optimize` in `_tumble` (source pinned) together with C06.
One candidate pair of `_do_match` (`_match_all` + `_tumble`) is modelled in exact arithmetic
(`Model.tumble`, compared with the real `_tumble` on every run): its result passes `check`, has at
least `min_match` peaks of the working set, integer indices, and is the weighted least-squares fit
of its own peaks (`tumble_post`); from a candidate pair whose first round catches only node peaks
of a noise-free lattice it returns the exact lattice with all strong node peaks (`tumble_exact`).
**Not proved** (oracle only): that the figure of merit prefers that candidate, i.e. that a
noise-free lattice of ≤ 10 points is matched completely by the *first* match.
-/
namespace C12
open Model

theorem operators (e mw : ℚ) (n mm : ℤ) :
    (Gen.fullm_weight_ok e mw = true ↔ mw ≤ e) ∧ (Gen.fullm_continue n mm = true ↔ mm ≤ n) := by
  unfold Gen.fullm_weight_ok Gen.fullm_continue
  -- the two sides of each `↔` are then the same
  simp only [decide_eq_true_eq, ge_iff_le, and_self]

/-- the weak set is exactly the complement of the weight filter -/
theorem weak_eq_filter (n : ℕ) (mm : ℤ) (filt zero : Sel) (methods : ℕ) (answers : List (Option Sel)) (k : ℕ) :
    (fullMatch n mm filt zero methods answers).weak k = !filt k := rfl

/-- loop invariant: every non-zero peak with `filt k` is counted exactly once, in the working set or in one match; a weak
one (`¬filt k`) in neither -/
def Inv (filt zero working : Sel) (ms : List Sel) : Prop :=
  ∀ k, zero k = false → memberships ms k + (working k).toNat = (filt k).toNat

theorem memberships_append (ms : List Sel) (s : Sel) (k : ℕ) :
    memberships (ms ++ [s]) k = memberships ms k + (s k).toNat := by
  unfold memberships
  rw [List.filter_append, List.length_append, List.filter_singleton]
  cases s k <;> rfl

theorem inv_step (filt zero working sel : Sel) (ms : List Sel) (h : Inv filt zero working ms) :
    Inv filt zero (fun k => working k && !(sel k && working k))
      (ms ++ [fun k => sel k && working k]) := by
  intro k hz
  rw [memberships_append, ← h k hz, add_assoc]
  dsimp only
  -- `(sel k && working k).toNat + (working k && !(sel k && working k)).toNat = (working k).toNat`: a working peak goes to
  -- the new match or stays
  cases working k <;> cases sel k <;> rfl

/-- the invariant is preserved by the whole loop, whatever the oracle answers -/
theorem fmLoop_inv (n : ℕ) (mm : ℤ) (filt zero : Sel) (answers : List (Option Sel)) :
    ∀ (working : Sel) (ms : List Sel) (methods : ℕ), Inv filt zero working ms →
      Inv filt zero (fmLoop n mm zero answers working ms methods).2 (fmLoop n mm zero answers working ms methods).1 := by
  induction answers with
  | nil => intro working ms methods h; exact h
  | cons a rest ih =>
    intro working ms methods h
    cases a with
    | none =>
      simp only [fmLoop]
      split
      · exact h
      · exact ih working ms (methods - 1) h
    | some sel =>
      simp only [fmLoop]
      split
      · -- re-adding the zero point does not touch the invariant, which speaks of the other peaks only
        exact ih _ _ methods fun k hz => by
          simpa only [hz, Bool.or_false] using inv_step filt zero working sel ms h k hz
      · exact inv_step filt zero working sel ms h

/-- **Partition**: every peak that is neither weak nor the zero point is either unmatched (and in no
match) or in exactly one match, never both; weak non-zero peaks are in neither. -/
theorem partition (n : ℕ) (mm : ℤ) (filt zero : Sel) (methods : ℕ) (answers : List (Option Sel)) (k : ℕ)
    (hz : zero k = false) :
    let r := fullMatch n mm filt zero methods answers
    (filt k = true → (r.unmatched k = true ∧ memberships r.ms k = 0) ∨ (r.unmatched k = false ∧ memberships r.ms k = 1)) ∧
    (filt k = false → r.unmatched k = false ∧ memberships r.ms k = 0) := by
  have hinv := fmLoop_inv n mm filt zero answers filt [] methods (fun _ _ => Nat.zero_add _) k hz
  simp only [fullMatch]
  generalize fmLoop n mm zero answers filt [] methods = r at hinv ⊢
  have hun : (if r.1.isEmpty then r.2 else fun k => r.2 k && !zero k) k = r.2 k := by
    split
    · rfl
    · simp only [hz, Bool.not_false, Bool.and_true]
  rw [hun]
  constructor
  · intro hf
    rw [hf] at hinv
    cases hw : r.2 k
    · rw [hw] at hinv
      -- `hinv : memberships r.1 k + false.toNat = true.toNat` reduces to `memberships r.1 k = 1`
      exact Or.inr ⟨rfl, hinv⟩
    · rw [hw, Nat.add_eq_right] at hinv
      exact Or.inl ⟨rfl, hinv⟩
  · intro hf
    rw [hf, Bool.toNat_false, Nat.add_eq_zero_iff, Bool.toNat_eq_zero] at hinv
    exact hinv.symm

/-- **the zero point is never reported as unmatched once a match was found** -/
theorem zero_not_unmatched (n : ℕ) (mm : ℤ) (filt zero : Sel) (methods : ℕ) (answers : List (Option Sel)) (k : ℕ)
    (hz : zero k = true) (hm : (fullMatch n mm filt zero methods answers).ms ≠ []) :
    (fullMatch n mm filt zero methods answers).unmatched k = false := by
  simp only [fullMatch] at hm ⊢
  rw [if_neg (mt List.isEmpty_iff.mp hm)]
  simp only [hz, Bool.not_true, Bool.and_false]

/-- a match only contains peaks of the working set at that time (so never a weak non-zero peak) -/
theorem match_within_working (sel working : Sel) (k : ℕ) (h : (fun k => sel k && working k) k = true) :
    working k = true := by
  simp only [Bool.and_eq_true] at h; exact h.2

theorem countSel_lt (n : ℕ) (s s' : Sel) (hsub : ∀ j, s j = true → s' j = true) (k : ℕ) (hk : k < n)
    (hs : s k = false) (hs' : s' k = true) : countSel n s < countSel n s' := by
  have hsl : ((List.range n).filter s).Sublist ((List.range n).filter s') := List.monotone_filter_right _ hsub
  -- a sublist of the same length is the whole list, but `k` is only in the larger one
  refine lt_of_le_of_ne hsl.length_le fun he => ?_
  have hmem : k ∈ (List.range n).filter s' := List.mem_filter.mpr ⟨List.mem_range.mpr hk, hs'⟩
  rw [← hsl.eq_of_length he] at hmem
  exact absurd (List.mem_filter.mp hmem).2 (by simp [hs])

/-- progress: a match that contains a non-zero working peak strictly shrinks the set of non-zero
working peaks (termination measure of the loop for `min_match ≥ 2` with a unique zero point) -/
theorem matched_step_decreases (n : ℕ) (zero working sel : Sel) (k : ℕ) (hk : k < n)
    (hz : zero k = false) (hw : working k = true) (hs : sel k = true) :
    countSel n (fun j => (working j && !(sel j && working j)) && !zero j)
      < countSel n (fun j => working j && !zero j) := by
  refine countSel_lt n _ _ (fun j hj => ?_) k hk (by simp [hw, hs]) (by simp [hw, hz])
  simp only [Bool.and_eq_true] at hj ⊢
  exact ⟨hj.1.1, hj.2⟩

/-- post-conditions of every returned match: `_tumble` ends with `weighted_optimize` followed by
`check` (≥ min_match peaks, both vector lengths within [min_delta, max_delta], angle ≥ min_angle),
and the best match is one of those; by C06 the parameters are the weighted least-squares fit of
the match's own peaks; `_match_all` assigns rounded (integer) indices (C05 wiring). -/
theorem match_postconditions :
    Gen.tumble_body = "if not self.check(match): return None ; match = match.weighted_optimize() ; if not self.check(match): return None ; match = self._match_all(point_selection=point_selection, zero=match.zero, a=match.a, b=match.b) ; if not self.check(match): return None ; match = match.weighted_optimize() ; if not self.check(match): return None else: return match"
    ∧ Gen.check_body = "if len(match) < self.min_match: return False ; papb = make_polar(np.array([match.a, match.b])) ; if len(size_filter(papb, self.min_delta, self.max_delta)) != 2: return False ; return angle_check(papb[0:1], papb[1:2], self.min_angle)"
    ∧ Gen.best_body = "if match_list: return max(match_list, key=fom) else: return None"
    ∧ (∀ len lo hi : ℚ, Gen.size_ok len lo hi = true ↔ (lo ≤ len ∧ len ≤ hi))
    ∧ (∀ d lim pi : ℚ, Gen.angle_ok d lim pi = true ↔ (lim < d ∧ d < pi - lim))
    ∧ Gen.angle_diff_expr = "np.absolute(p1[:, 1] - p2[:, 1]) % np.pi" := by
  refine ⟨rfl, rfl, rfl, ?_, ?_, rfl⟩
  · intro len lo hi
    unfold Gen.size_ok
    simp
  · intro d lim pi
    unfold Gen.angle_ok
    simp

/-- non-vacuity: 5 peaks, peak 0 = zero, peak 4 weak; one match {0,1,2}, then nothing -/
example :
    let r := fullMatch 5 2 (fun k => k < 4) (fun k => k == 0) 1
      [some (fun k => k ≤ 2), none]
    r.ms.length = 1 ∧ r.unmatched 3 = true ∧ r.unmatched 0 = false ∧ r.unmatched 1 = false ∧ r.weak 4 = true := by
  decide

/-! ### one candidate pair of `_do_match`: `_match_all` followed by `_tumble` -/

/-- `check`, spelled out: enough peaks, both lengths within `[min_delta, max_delta]`, and the angle
between the vectors (mod π) strictly between `min_angle` and `π - min_angle` -/
theorem check_char (P : CheckP) (n : ℕ) (a b : V2) :
    checkM P n a b = true ↔
      P.minMatch ≤ (n : ℤ) ∧ lenOk P (norm2 a) = true ∧ lenOk P (norm2 b) = true ∧
      P.sin2 * (norm2 a * norm2 b) < det2 a b * det2 a b := by
  unfold checkM
  simp only [Bool.and_eq_true, decide_eq_true_eq, and_assoc]

/-- the two `lenOk` conjuncts of `check_char`, spelled out; `maxD2 = none` (`max_delta=None`) means no upper bound -/
theorem lenOk_char (P : CheckP) (n2 : ℚ) :
    lenOk P n2 = true ↔ P.minD2 ≤ n2 ∧ (∀ m, P.maxD2 = some m → n2 ≤ m) := by
  unfold lenOk
  cases P.maxD2 with
  | none => simp only [Bool.and_true, decide_eq_true_eq, reduceCtorEq, false_imp_iff, implies_true, and_true]
  | some m => simp only [Bool.and_eq_true, decide_eq_true_eq, Option.some.injEq, forall_eq']

theorem countTrue_map (peaks : List Peak) (S : Peak → Bool) :
    countTrue (peaks.map S) = (peaks.filter S).length := by
  unfold countTrue
  rw [List.filter_map, List.length_map]
  rfl

/-- `tumble` returns a match exactly when all eight stages succeed (two `_match_all`s, two fits, four `check`s); the results of
the first round are the witnesses -/
theorem tumble_eq_some_iff (P : CheckP) (peaks : List Peak) (sel : List Bool) (tol : ℚ) (z a b z2 a2 b2 : V2)
    (m : List Bool) (idx : List (ℤ × ℤ)) :
    tumble P peaks sel tol z a b = .some z2 a2 b2 m idx ↔
      ∃ m0 idx0 z1 a1 b1,
        matchAll peaks sel z a b tol = some (m0, idx0) ∧ checkM P (countTrue m0) a b = true ∧
        weightedOptimize peaks m0 idx0 = some (z1, a1, b1) ∧ checkM P (countTrue m0) a1 b1 = true ∧
        matchAll peaks sel z1 a1 b1 tol = some (m, idx) ∧ checkM P (countTrue m) a1 b1 = true ∧
        weightedOptimize peaks m idx = some (z2, a2, b2) ∧ checkM P (countTrue m) a2 b2 = true := by
  constructor
  · intro h
    unfold tumble at h
    -- peel the eight stages in source order; a failed stage leaves `h` an equation between different constructors
    rcases h1 : matchAll peaks sel z a b tol with _ | ⟨m0, idx0⟩ <;> simp only [h1] at h
    · cases h
    rcases c0 : checkM P (countTrue m0) a b <;> rw [c0] at h
    · cases h
    rcases h2 : weightedOptimize peaks m0 idx0 with _ | ⟨z1, a1, b1⟩ <;> simp only [h2] at h
    · cases h
    rcases c1 : checkM P (countTrue m0) a1 b1 <;> rw [c1] at h
    · cases h
    rcases h3 : matchAll peaks sel z1 a1 b1 tol with _ | ⟨m2, idx2⟩ <;> simp only [h3] at h
    · cases h
    rcases c2 : checkM P (countTrue m2) a1 b1 <;> rw [c2] at h
    · cases h
    rcases h4 : weightedOptimize peaks m2 idx2 with _ | ⟨z3, a3, b3⟩ <;> simp only [h4] at h
    · cases h
    rcases c3 : checkM P (countTrue m2) a3 b3 <;> rw [c3] at h
    · cases h
    cases h
    exact ⟨m0, idx0, z1, a1, b1, rfl, c0, h2, c1, h3, c2, h4, c3⟩
  · rintro ⟨m0, idx0, z1, a1, b1, h1, c0, h2, c1, h3, c2, h4, c3⟩
    unfold tumble
    simp only [h1, c0, h2, c1, h3, c2, h4, c3, Bool.not_true, Bool.false_eq_true, if_false]

/-- **post-conditions of every match `_tumble` returns**: it passes `check` (≥ `min_match` peaks,
lengths and angle in range), its peaks belong to the working selection, it has one integer index pair
per selected peak, and its lattice satisfies the weighted normal equations of its own peaks in both
coordinates (hence is their weighted least-squares optimum, `C06.lsq_optimal`). -/
theorem tumble_post (P : CheckP) (peaks : List Peak) (sel : List Bool) (tol : ℚ) (z a b z2 a2 b2 : V2)
    (m : List Bool) (idx : List (ℤ × ℤ)) (hlen : sel.length = peaks.length)
    (h : tumble P peaks sel tol z a b = .some z2 a2 b2 m idx) :
    checkM P (countTrue m) a2 b2 = true ∧ P.minMatch ≤ (countTrue m : ℤ) ∧
    m.length = peaks.length ∧ idx.length = countTrue m ∧
    (∀ k (hk : k < m.length), m[k] = true → ∃ hs : k < sel.length, sel[k] = true) ∧
    NormalEqs z2.1 a2.1 b2.1 (obsFor peaks m idx (·.1)) ∧
    NormalEqs z2.2 a2.2 b2.2 (obsFor peaks m idx (·.2)) := by
  obtain ⟨_, _, z1, a1, b1, -, -, -, -, h2, -, hw, c3⟩ := (tumble_eq_some_iff ..).mp h
  have hcounts := matchAll_counts peaks sel z1 a1 b1 tol m idx h2 hlen
  obtain ⟨hy, hx⟩ := weightedOptimize_normalEqs hw
  exact ⟨c3, ((check_char P _ _ _).mp c3).1, hcounts.1, hcounts.2,
    matchAll_subset peaks sel z1 a1 b1 tol m idx h2, hy, hx⟩

/-- **a noise-free lattice is recovered exactly by `_tumble` from a working candidate pair**
(first iteration of the full match: the working selection is "elevation ≥ min_weight").  Hypotheses as in
`C05.fastmatch_exact_recovery` — node peaks lie exactly on the true lattice, other strong peaks are
rejected by it, whatever the candidate `(z0, a0, b0)` catches in its first round is a node peak with its
true indices, rank 3 — plus the three `check`s the procedure performs on the way that involve the
candidate and the true lattice.  Then the result is the exact lattice, exactly the strong node peaks,
their true indices: the match "contains all lattice points with error 0". -/
theorem tumble_exact (P : CheckP) (peaks : List Peak) (z a b z0 a0 b0 : V2) (tol mw : ℚ)
    (node : Peak → Option (ℤ × ℤ))
    (hd : det2 a b ≠ 0) (hd0 : det2 a0 b0 ≠ 0) (htol : 0 < tol) (hmw : 0 ≤ mw)
    (hnode : ∀ p ∈ peaks, ∀ i j, node p = some (i, j) → p.pos = calcCoord z a b ((i : ℚ), (j : ℚ)))
    (hout : ∀ p ∈ peaks, node p = none → mw ≤ p.elev → isMatched a b tol (ix z a b p) = false)
    (h1 : ∀ p ∈ peaks, mw ≤ p.elev → isMatched a0 b0 tol (ix z0 a0 b0 p) = true →
      node p = some (rix z0 a0 b0 p))
    (hrank : (normalOf ((peaks.filter (selBy (fun p => Gen.fm_weight_ok p.elev mw) z0 a0 b0 tol)).map
      fun p => ⟨((rix z0 a0 b0 p).1 : ℚ), ((rix z0 a0 b0 p).2 : ℚ), p.elev, 0⟩)).det ≠ 0)
    (hc0 : checkM P (peaks.filter (selBy (fun p => Gen.fm_weight_ok p.elev mw) z0 a0 b0 tol)).length a0 b0 = true)
    (hc1 : checkM P (peaks.filter (selBy (fun p => Gen.fm_weight_ok p.elev mw) z0 a0 b0 tol)).length a b = true)
    (hc2 : checkM P (peaks.filter (fun p => Gen.fm_weight_ok p.elev mw && (node p).isSome)).length a b = true) :
    tumble P peaks (peaks.map fun p => Gen.fm_weight_ok p.elev mw) tol z0 a0 b0
      = .some z a b (peaks.map fun p => Gen.fm_weight_ok p.elev mw && (node p).isSome)
          ((peaks.filter fun p => Gen.fm_weight_ok p.elev mw && (node p).isSome).map
            fun p => (node p).getD (0, 0)) := by
  obtain ⟨hfit1, hmap2, hfil2, hidx2, hfit2, _⟩ :=
    exact_stages peaks z a b z0 a0 b0 tol mw node hd htol hmw hnode hout h1 hrank
  unfold tumble
  rw [matchAll_eq peaks (fun p => Gen.fm_weight_ok p.elev mw) z0 a0 b0 tol hd0]
  simp only [countTrue_map, hc0, Bool.not_true, Bool.false_eq_true, if_false, hfit1, hc1]
  rw [matchAll_eq peaks (fun p => Gen.fm_weight_ok p.elev mw) z a b tol hd, hmap2, hfil2, hidx2]
  simp only [countTrue_map, hc2, Bool.not_true, Bool.false_eq_true, if_false, hfit2]

/-- non-vacuity, evaluated in the kernel: the 7-peak example of C05 (five strong node peaks of a 10 px square
lattice, a weak node peak, a half-cell outlier; candidate vectors off by ±1/5 px, zero point exact) through
`_match_all` + `_tumble` with `min_match = 3`, lengths in [5, 20] px and `sin²(min_angle) = 1/10` -/
example :
    tumble ⟨3, 25, some 400, 1 / 10⟩
      [⟨(0, 0), 1⟩, ⟨(10, 0), 2⟩, ⟨(5, 5), 3⟩, ⟨(0, 10), 1⟩, ⟨(20, 20), 0⟩, ⟨(10, 10), 1⟩, ⟨(20, 10), 2⟩]
      (([⟨(0, 0), 1⟩, ⟨(10, 0), 2⟩, ⟨(5, 5), 3⟩, ⟨(0, 10), 1⟩, ⟨(20, 20), 0⟩, ⟨(10, 10), 1⟩, ⟨(20, 10), 2⟩] : List Peak).map
        fun p => Gen.fm_weight_ok p.elev (1 / 10))
      3 (0, 0) (10 + 1 / 5, 0) (0, 10 - 1 / 5)
    = .some (0, 0) (10, 0) (0, 10) [true, true, false, true, false, true, true]
        [(0, 0), (1, 0), (0, 1), (1, 1), (2, 1)] := by
  decide +kernel

/-! ### `check` as written vs `check` as modelled (real numbers) -/

/-- **the angle test**: for vectors given by `make_polar` (`a = ra (sin α, cos α)` in `(y, x)` order) and
`0 ≤ min_angle ≤ π/2`, the test of `angle_check` — `|α - β| % π` strictly between `min_angle` and
`π - min_angle` (`Gen.angle_diff_expr`, `Gen.angle_ok`) — holds exactly when
`sin²(min_angle) ‖a‖²‖b‖² < det(a, b)²`, the form `Model.checkM` uses; in particular it is independent of the
orientation of the pair and of the branch cut of `arctan2` -/
theorem check_angle_bridge (ra rb α β lim : ℝ) (hra : 0 < ra) (hrb : 0 < rb) (hl0 : 0 ≤ lim)
    (hl1 : lim ≤ Real.pi / 2) :
    (lim < modPi |α - β| ∧ modPi |α - β| < Real.pi - lim) ↔
      Real.sin lim ^ 2 * (((ra * Real.sin α) ^ 2 + (ra * Real.cos α) ^ 2) * ((rb * Real.sin β) ^ 2 + (rb * Real.cos β) ^ 2))
        < ((ra * Real.sin α) * (rb * Real.cos β) - (rb * Real.sin β) * (ra * Real.cos α)) ^ 2 := by
  have hr := modPi_range |α - β|
  have n : ∀ r γ : ℝ, (r * Real.sin γ) ^ 2 + (r * Real.cos γ) ^ 2 = r ^ 2 := fun r γ => by
    rw [mul_pow, mul_pow, ← mul_add, Real.sin_sq_add_cos_sq, mul_one]
  have d : (ra * Real.sin α) * (rb * Real.cos β) - (rb * Real.sin β) * (ra * Real.cos α)
      = Real.sin (α - β) * (ra * rb) := by rw [Real.sin_sub]; ring
  -- both sides say `sin² lim < sin² (α - β)`: the left by `sin_sq_gt_iff`, the right after division by `ra² rb²`
  rw [← sin_sq_gt_iff _ _ hr.1 hr.2 hl0 hl1, sin_sq_modPi, sin_sq_abs, n, n, d, mul_pow, mul_pow,
    mul_lt_mul_iff_left₀ (by positivity)]

/-- Python's `%` with a positive modulus lands in `[0, π)` -/
theorem mod_pi_range (x : ℝ) : 0 ≤ modPi x ∧ modPi x < Real.pi := modPi_range x

/-- **the length test**: `min_delta ≤ ‖v‖ ≤ max_delta` ⇔ the comparison of squares (`0 ≤ min_delta, max_delta`) -/
theorem check_length_bridge (v1 v2 lo hi : ℝ) (hlo : 0 ≤ lo) (hhi : 0 ≤ hi) :
    (lo ≤ Real.sqrt (v1 ^ 2 + v2 ^ 2) ∧ Real.sqrt (v1 ^ 2 + v2 ^ 2) ≤ hi) ↔
      (lo ^ 2 ≤ v1 ^ 2 + v2 ^ 2 ∧ v1 ^ 2 + v2 ^ 2 ≤ hi ^ 2) :=
  and_congr (Real.le_sqrt hlo (add_nonneg (sq_nonneg _) (sq_nonneg _))) (Real.sqrt_le_left hhi)

/-! ### the ranking of candidate matches (`fom`, real numbers) and the clause "the first match contains all lattice points" -/

/-- **the figure of merit as written is `(Σ elevations)² |det(a, b)| / (‖a‖² + ‖b‖²)`** -- the product of the point term, the
orthogonality term `|sin|` and the equal-length term of `Gen.fom_body`, with `np.linalg.norm` a square root -/
theorem fom_ranking_closed_form (S a0 a1 b0 b1 : ℝ) (ha : 0 < a0 * a0 + a1 * a1) (hb : 0 < b0 * b0 + b1 * b1) :
    fomWritten S a0 a1 b0 b1 = S ^ 2 * |a0 * b1 - a1 * b0| / (a0 * a0 + a1 * a1 + (b0 * b0 + b1 * b1)) :=
  fomWritten_eq_fomClosed S a0 a1 b0 b1 ha hb

/-- **a full lattice outranks its index-2 sublattice along `a`** whenever the peaks of the sublattice carry at most `1/√2` of
the total elevation (`2 s² ≤ S²`), whatever the lengths of `a` and `b`: the equal-length term gains at most a factor 2.  With
uniform elevations a complete block of three (or five) columns has `s/S = 2/3` (`3/5`): the first match is the full lattice. -/
theorem full_lattice_outranks_sublattice (S s a0 a1 b0 b1 : ℝ) (ha : 0 < a0 * a0 + a1 * a1)
    (hb : 0 < b0 * b0 + b1 * b1) (hs : 2 * s ^ 2 ≤ S ^ 2) :
    fomWritten s (2 * a0) (2 * a1) b0 b1 ≤ fomWritten S a0 a1 b0 b1 := by
  have ha2 : 0 < 2 * a0 * (2 * a0) + 2 * a1 * (2 * a1) := by linarith
  rw [fomWritten_eq_fomClosed s (2 * a0) (2 * a1) b0 b1 ha2 hb, fomWritten_eq_fomClosed S a0 a1 b0 b1 ha hb]
  exact fom_full_ge_sublattice S s a0 a1 b0 b1 ha hb hs

/-- non-vacuity (uniform elevations, 6 of 9 and 6 of 10 peaks) -/
example : 2 * (6 : ℝ) ^ 2 ≤ 9 ^ 2 ∧ 2 * (6 : ℝ) ^ 2 ≤ 10 ^ 2 := by norm_num

/-- **the bound is sharp in kind (known finding D20)**: with `a = (7, 2)`, `b = (-9, 33)` and elevations of which the even
columns hold 17.3 of 18.9, the documented figure of merit of the sublattice `(2a, b)` exceeds that of the full lattice -- the
first match is then not the full lattice although the lattice is noise-free -/
theorem sublattice_outranks_witness :
    fomClosed (189 / 10) 7 2 (-9) 33 < fomClosed (173 / 10) 14 4 (-9) 33 := by
  unfold fomClosed
  norm_num [abs_of_pos]

end C12
