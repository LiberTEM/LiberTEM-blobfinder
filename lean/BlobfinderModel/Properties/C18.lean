import BlobfinderModel.Proofs.Masks
import BlobfinderModel.Proofs.Round
/-!
# C18 — antialiased radial masks form a partition of unity

`r` is the distance of a pixel from the centre (any non-negative rational; the theorems hold
for every `r`, hence for every centre — integer or not, inside or outside the image — and
every image size), `R` = `radius`, `ri` = `radius_inner`, `n` = `n_bins`,
`w = (R - ri)/n` the bin width.  `Gen.bin_val`, `Gen.bin_width`, `Gen.patch_*` are
regenerated from `base/masks.py` on every run.
-/
namespace C18
open Model

/-- every bin value is in `[0, 1]`, for any width, centre and distance -/
theorem bins_nonneg (R ri : ℚ) (n k : ℕ) (r : ℚ) : 0 ≤ binVal R ri n k r :=
  bin_val_nonneg _ _ _

theorem bins_le_one (R ri : ℚ) (n k : ℕ) (r : ℚ) : binVal R ri n k r ≤ 1 :=
  bin_val_le_one _ _ _

theorem span_eq (R ri : ℚ) (n : ℕ) (hn : 0 < n) : ri + (n : ℚ) * Gen.bin_width R ri n = R := by
  unfold Gen.bin_width
  rw [Int.cast_natCast, mul_div_cancel₀ _ (Nat.cast_ne_zero.mpr hn.ne'), add_sub_cancel]

theorem inner_le_outer (R ri : ℚ) (n : ℕ) (hn : 0 < n) (hw : 1 ≤ Gen.bin_width R ri n) : ri ≤ R := by
  rw [← span_eq R ri n hn]
  exact le_add_of_nonneg_right (mul_nonneg n.cast_nonneg (zero_le_one.trans hw))

/-- bin `k` is the ramp across its inner edge minus the ramp across its outer edge: what makes the bins telescope -/
theorem binVal_eq_ramp_sub (R ri : ℚ) (n k : ℕ) (r : ℚ) (hw : 1 ≤ Gen.bin_width R ri n) :
    binVal R ri n k r = ramp (r - (ri + (k : ℚ) * Gen.bin_width R ri n) + 1 / 2)
      - ramp (r - (ri + ((k + 1 : ℕ) : ℚ) * Gen.bin_width R ri n) + 1 / 2) := by
  rw [Nat.cast_succ, add_one_mul, ← add_assoc]
  exact bin_val_eq_ramp_sub _ _ r hw

/-- sum over all (unpatched) bins = outer-edge ramp difference (telescoping), `w ≥ 1` -/
theorem bins_sum_telescope (R ri : ℚ) (n : ℕ) (hn : 0 < n) (hw : 1 ≤ Gen.bin_width R ri n) (r : ℚ) :
    ((List.range n).map fun k => binVal R ri n k r).sum
      = ramp (r - ri + 1 / 2) - ramp (r - R + 1 / 2) := by
  simp only [binVal_eq_ramp_sub R ri n _ r hw]
  rw [sum_range_sub_succ fun k : ℕ => ramp (r - (ri + (k : ℚ) * Gen.bin_width R ri n) + 1 / 2)]
  simp only [Nat.cast_zero, zero_mul, add_zero, span_eq R ri n hn]

/-- one bin from `ri` to `R` (a disk for `ri = 0`, else a ring): the form in which C16 and the ring / disk clauses use the bins -/
theorem binVal_single (R ri r : ℚ) (hw : 1 ≤ R - ri) :
    binVal R ri 1 0 r = ramp (r - ri + 1 / 2) - ramp (r - R + 1 / 2) := by
  have ew : Gen.bin_width R ri (1 : ℕ) = R - ri := by simp [Gen.bin_width]
  have ec : binCenter ri (R - ri) 0 = ri + (R - ri) / 2 := by simp [binCenter]
  unfold binVal
  rw [ew, ec, bin_val_eq_ramp_sub _ _ _ hw, add_sub_cancel]

/-- **Partition of unity**: at every pixel whose distance lies at least 0.5 px inside
`[radius_inner, radius]` the bins sum to exactly 1. -/
theorem partition_of_unity (R ri : ℚ) (n : ℕ) (hn : 0 < n) (hw : 1 ≤ Gen.bin_width R ri n)
    (r : ℚ) (hlo : ri + 1 / 2 ≤ r) (hhi : r ≤ R - 1 / 2) :
    ((List.range n).map fun k => binVal R ri n k r).sum = 1 := by
  rw [bins_sum_telescope R ri n hn hw, ramp_edge_eq_one r ri hlo, ramp_edge_eq_zero r R hhi, sub_zero]

/-- at least 0.5 px outside the annulus the bins sum to 0 (hence every bin is 0) -/
theorem bins_zero_outside (R ri : ℚ) (n : ℕ) (hn : 0 < n) (hw : 1 ≤ Gen.bin_width R ri n)
    (r : ℚ) (hout : R + 1 / 2 ≤ r ∨ r ≤ ri - 1 / 2) :
    ((List.range n).map fun k => binVal R ri n k r).sum = 0 := by
  rw [bins_sum_telescope R ri n hn hw]
  have hRri := inner_le_outer R ri n hn hw
  rcases hout with h | h
  · rw [ramp_edge_eq_one r R h, ramp_edge_eq_one r ri (by linarith only [hRri, h]), sub_self]
  · rw [ramp_edge_eq_zero r ri h, ramp_edge_eq_zero r R (by linarith only [hRri, h]), sub_self]

/-- the sum of the bins never exceeds 1 and is never negative, anywhere -/
theorem bins_sum_range (R ri : ℚ) (n : ℕ) (hn : 0 < n) (hw : 1 ≤ Gen.bin_width R ri n) (r : ℚ) :
    0 ≤ ((List.range n).map fun k => binVal R ri n k r).sum ∧
    ((List.range n).map fun k => binVal R ri n k r).sum ≤ 1 := by
  rw [bins_sum_telescope R ri n hn hw]
  have h : r - R + 1 / 2 ≤ r - ri + 1 / 2 := by linarith only [inner_le_outer R ri n hn hw]
  exact ⟨sub_nonneg.mpr (ramp_mono _ _ h), (sub_le_self _ (ramp_nonneg _)).trans (ramp_le_one _)⟩

/-- The centre patch is applied only to a pixel closer than 0.5 px to the centre, and only for
`radius_inner < 0.5` (repair of defect D7); its value is `1 - radius_inner`, written into the
first bin before the non-zero selection and the normalisation (repair of D8), and nowhere else. -/
theorem patch_conditions (ri : ℚ) (isCenterPixel : Bool) (r : ℚ)
    (h : patched ri isCenterPixel r = true) :
    ri < 1 / 2 ∧ r < 1 / 2 ∧ isCenterPixel = true := by
  unfold patched Gen.patch_guard Gen.patch_applies at h
  simp only [Bool.and_eq_true, decide_eq_true_eq] at h
  exact ⟨h.1, h.2.2, h.2.1⟩

theorem not_patched (ri : ℚ) (isCenterPixel : Bool) (r : ℚ) (hr : 1 / 2 ≤ r) :
    patched ri isCenterPixel r = false :=
  Bool.eq_false_iff.mpr fun hc => not_lt.mpr hr (patch_conditions ri isCenterPixel r hc).2.1

/-- a pixel at distance `≥ 0.5` from the centre is never patched: there the returned bins are
the plain bins, so the partition of unity of `partition_of_unity` is what the code returns -/
theorem binsAt_unpatched (R ri : ℚ) (n : ℕ) (isCenterPixel : Bool) (r : ℚ) (hr : 1 / 2 ≤ r) :
    binsAt R ri n isCenterPixel r = (List.range n).map fun k => binVal R ri n k r := by
  simp [binsAt, not_patched ri isCenterPixel r hr]

/-- **What `radial_bins` returns sums to 1** on the whole annulus (0.5 px inside), patched or not. -/
theorem binSum_one (R ri : ℚ) (n : ℕ) (hn : 0 < n) (hw : 1 ≤ Gen.bin_width R ri n)
    (hri : 0 ≤ ri) (isCenterPixel : Bool) (r : ℚ) (hlo : ri + 1 / 2 ≤ r) (hhi : r ≤ R - 1 / 2) :
    binSum R ri n isCenterPixel r = 1 := by
  unfold binSum
  rw [lsum_eq_sum, binsAt_unpatched R ri n isCenterPixel r (by linarith only [hri, hlo])]
  exact partition_of_unity R ri n hn hw r hlo hhi

/-- at the patched pixel all bins except the first vanish, so the sum there is `1 - radius_inner`
(exactly 1 for a full disk, `radius_inner = 0`) -/
theorem binSum_patched (R ri : ℚ) (n : ℕ) (hn : 0 < n) (hw : 1 ≤ Gen.bin_width R ri n)
    (hri : 0 ≤ ri) (r : ℚ) (hr0 : 0 ≤ r) (hp : patched ri true r = true) :
    binSum R ri n true r = 1 - ri := by
  obtain ⟨-, hr, -⟩ := patch_conditions ri true r hp
  -- every edge but the innermost is at least 1 px out, the pixel less than 1/2 px
  have he : ∀ k : ℕ, k ≠ 0 → 1 ≤ ri + k * Gen.bin_width R ri n := by
    intro k hk
    have hk1 : (1 : ℚ) ≤ k := by exact_mod_cast Nat.one_le_iff_ne_zero.mpr hk
    have hkw := le_mul_of_one_le_left (zero_le_one.trans hw) hk1
    linarith
  have hz : ∀ k, k ≠ 0 → binVal R ri n k r = 0 := by
    intro k hk
    rw [binVal_eq_ramp_sub R ri n k r hw, ramp_edge_eq_zero_of_one_le r _ hr (he k hk),
      ramp_edge_eq_zero_of_one_le r _ hr (he (k + 1) k.succ_ne_zero), sub_zero]
  unfold binSum binsAt
  rw [lsum_eq_sum, sum_range_single _ 0 n, if_pos hn]
  · -- bin 0 holds the patch value
    simp [hp, Gen.patch_value]
  · -- the others are not patched and vanish
    intro k _ hk
    simp [hk, hz k hk]

/-- normalisation: dividing the values of a bin by their (non-zero) sum makes them sum to 1 -/
theorem normalized_sum_one (vals : List ℚ) (hs : vals.sum ≠ 0) :
    (vals.map (· / vals.sum)).sum = 1 := by
  simp only [div_eq_inv_mul]
  -- through `lsum`: the library's `List.sum_map_mul_left` is not among the imports
  rw [← lsum_eq_sum, lsum_map_mul_left, List.map_id', lsum_eq_sum, inv_mul_cancel₀ hs]

/-- **ring + inner disk = outer disk** (antialiased, one bin each; `ri ≥ 1`, `R - ri ≥ 1`):
at every unpatched pixel … -/
theorem ring_plus_disk (R ri r : ℚ) (hri : 1 ≤ ri) (hw : 1 ≤ R - ri) :
    binVal R ri 1 0 r + binVal ri 0 1 0 r = binVal R 0 1 0 r := by
  have hR : 1 ≤ R := by linarith
  rw [binVal_single R ri r hw, binVal_single ri 0 r (by rwa [sub_zero]), binVal_single R 0 r (by rwa [sub_zero]),
    add_comm, sub_add_sub_cancel]

/-- … and at the patched centre pixel (`r < 1/2`): ring 0, both disks 1. -/
theorem ring_plus_disk_center (R ri r : ℚ) (hri : 1 ≤ ri) (hw : 1 ≤ R - ri) (hr : r < 1 / 2) :
    binVal R ri 1 0 r = 0 ∧ Gen.patch_value 0 = 1 := by
  have hR : ri ≤ R := by linarith
  constructor
  · rw [binVal_single R ri r hw, ramp_edge_eq_zero_of_one_le r ri hr hri,
      ramp_edge_eq_zero_of_one_le r R hr (hri.trans hR), sub_zero]
  · exact sub_zero 1

/-- antialiased disks have values in `[0, 1]` -/
theorem disk_range (R r : ℚ) : 0 ≤ binVal R 0 1 0 r ∧ binVal R 0 1 0 r ≤ 1 :=
  ⟨bins_nonneg _ _ _ _ _, bins_le_one _ _ _ _ _⟩

/-- Defect D7 (pre-repair: patch whenever the rounded centre pixel is inside, even at distance
≥ 0.5): centre (10.5, 10.5), pixel (10, 10) at distance `r² = 1/2`; with `r = 7/10` as a
rational stand-in the patched sum is `1 + bin₁ = 6/5 ≠ 1`. -/
theorem patch_prefix_counterexample :
    Gen.patch_value 0 + binVal 8 0 8 1 (7 / 10) = 6 / 5 := by
  decide +kernel

/-- non-vacuity: 8 bins of width 1 on radius 8 -/
example : (1 : ℚ) ≤ Gen.bin_width 8 0 8 := by unfold Gen.bin_width; norm_num

/-- **which calls with the default bin count are inputs of this property**: the default is
`int(np.round(radius - radius_inner))` (`Gen.bin_default_n_expr`, half-to-even).  For a span `s = R - ri ≥ 1` the default
layout has bin width ≥ 1 px — the hypothesis of every clause above — exactly when the fractional part of `s` is below 1/2,
or equal to 1/2 with an even integer part.  For the other spans (3.5, 7.5, 2.7, …) the default bins are narrower than a
pixel and the partition clauses do not apply (the bin sum exceeds 1 there: checked on the implementation). -/
theorem default_layout_domain (R ri : ℚ) (hs : 1 ≤ R - ri) :
    1 ≤ Gen.bin_width R ri (roundHalfEven (R - ri)) ↔
      ((R - ri) - ((R - ri).floor : ℚ) < 1 / 2 ∨
        ((R - ri) - ((R - ri).floor : ℚ) = 1 / 2 ∧ (R - ri).floor % 2 = 0)) := by
  rw [← roundHalfEven_eq_floor_iff]
  set s := R - ri
  have hf : (0 : ℚ) < s.floor := Int.cast_pos.mpr (Int.floor_pos.mpr hs)
  unfold Gen.bin_width
  -- the default count `n` is `⌊s⌋` or `⌊s⌋ + 1`; the width `s / n` is at least 1 iff `n ≤ s`, i.e. iff `n = ⌊s⌋`
  rcases roundHalfEven_cases s with ⟨e, -⟩ | ⟨e, -⟩
  · rw [e]
    exact iff_of_true ((one_le_div₀ hf).mpr (Int.floor_le s)) rfl
  · rw [e, Int.cast_add, Int.cast_one]
    have h1 : s / (s.floor + 1) < 1 := (div_lt_one (add_pos hf one_pos)).mpr (Int.lt_floor_add_one s)
    exact iff_of_false (not_le.mpr h1) (by omega)

/-- non-vacuity: span 4.5 is inside the domain (4 bins of 1.125 px), span 3.5 is not (4 bins of 0.875 px) -/
example : roundHalfEven (9 / 2) = 4 ∧ 1 ≤ Gen.bin_width (9 / 2) 0 4 ∧ roundHalfEven (7 / 2) = 4
    ∧ ¬ 1 ≤ Gen.bin_width (7 / 2) 0 4 := by decide +kernel

end C18
