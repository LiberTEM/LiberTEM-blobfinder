import BlobfinderModel.Properties.C09
import BlobfinderModel.Properties.C16
import BlobfinderModel.Proofs.Round
import BlobfinderModel.Model.Udf
/-!
# C10 — correlation UDFs equal the stand-alone result under any partitioning / tiling  (partial)

Against the UDF *protocol* of `harness/stubs/libertem` (assumption A-LT; LiberTEM itself is absent).
Proved: for every schedule (grouping of frames into partitions, order inside partitions, order of
partitions) the stored result of a frame is the per-frame result, provided the per-frame output does
not depend on the task data left by earlier frames — which is C09's theorem for the crop buffers;
what is passed to the frame routines (rounded peaks + rounded zero shift, task-data buffers, byte
limit → buffer count, crop function by back-end) is pinned to the source; C08 / C13 make the buffer
count and the crop back-end irrelevant.  Sparse UDF: the accumulated tile sums decompose exactly
when every tile sees the frame minimum (`sparse_tiling_indep_partial`); otherwise they do not —
`sparse_tiling_counterexample` is **known finding D10**.
-/
namespace C10
open Model

/-- When a frame's result does not depend on the task data it finds (`hind`), every frame of a partition gets its result from
fresh task data, and other slots keep what they held. -/
theorem runPartition_spec {τ ρ : Type} (init : τ) (perFrame : τ → ℕ → τ × ρ)
    (hind : ∀ t t' f, (perFrame t f).2 = (perFrame t' f).2) (part : List ℕ) :
    ∀ (res : ℕ → Option ρ) (t : τ) (f : ℕ),
      runPartition init perFrame res part t f
        = if f ∈ part then some (perFrame init f).2 else res f := by
  induction part with
  | nil => intro res t f; rw [runPartition, if_neg List.not_mem_nil]
  | cons g rest ih =>
    intro res t f
    -- slot `f` holds the last write: by `rest` if `f` occurs there, else by `g`, whose result from `t` is that from `init`
    rw [runPartition]
    dsimp only
    rw [ih, hind t init g]
    simp only [List.mem_cons, ite_or]
    by_cases hfg : f = g
    · rw [if_pos hfg, if_pos hfg, hfg, ite_self]
    · rw [if_neg hfg, if_neg hfg]

/-- **Schedule independence**: whatever the partitioning and the processing order, every frame that is
processed gets exactly its stand-alone per-frame result; other slots are untouched. -/
theorem sched_result {τ ρ : Type} (init : τ) (perFrame : τ → ℕ → τ × ρ)
    (hind : ∀ t t' f, (perFrame t f).2 = (perFrame t' f).2) (sched : List (List ℕ)) :
    ∀ (res : ℕ → Option ρ) (f : ℕ),
      runSchedule init perFrame sched res f
        = if f ∈ sched.flatten then some (perFrame init f).2 else res f := by
  induction sched with
  | nil => intro res f; rw [runSchedule, List.flatten_nil, if_neg List.not_mem_nil]
  | cons part rest ih =>
    intro res f
    -- written by `rest` or, failing that, by `part`: in either case the same value
    rw [runSchedule, ih, runPartition_spec init perFrame hind, ← ite_or, List.flatten_cons]
    exact if_congr (List.mem_append.trans or_comm).symm rfl rfl

/-- two schedules covering the same frames give the same results -/
theorem schedule_irrelevant {τ ρ : Type} (init : τ) (perFrame : τ → ℕ → τ × ρ)
    (hind : ∀ t t' f, (perFrame t f).2 = (perFrame t' f).2) (s1 s2 : List (List ℕ))
    (hsame : ∀ f, f ∈ s1.flatten ↔ f ∈ s2.flatten) (res : ℕ → Option ρ) :
    runSchedule init perFrame s1 res = runSchedule init perFrame s2 res := by
  funext f
  rw [sched_result init perFrame hind, sched_result init perFrame hind]
  exact if_congr (hsame f) rfl rfl

/-- the hypothesis `hind` is what C09 proves for the frame routines on reused crop buffers -/
theorem frame_output_indep_taskdata {α β : Type} [OfNat α 0] (crop : CropFn α) (hc : C09.Defining crop)
    (eval : (ℤ → ℤ → α) → β) (post : (ℤ → ℤ → α) → (ℤ → ℤ → α)) (c h w : ℤ) (he : C09.EvalLocal eval h w)
    (cl : Call α) (hfy : 0 ≤ cl.fy) (hfx : 0 ≤ cl.fx) (hn : 0 ≤ cl.n) (hb : 0 < cl.b) (st st' : St α β) (i : ℤ)
    (hi : 0 ≤ i ∧ i < cl.n) :
    (processFrame fastArith crop eval post c h w st cl).out i
      = (processFrame fastArith crop eval post c h w st' cl).out i :=
  C09.step_out_indep_state fastArith C08.fast_good crop hc eval post c h w he cl hfy hfx hn hb st st' i hi

/-- peak list handed to the frame routine for frame `f`: rounded peaks + rounded zero shift of `f` -/
def udfPeaks (peaks : ℤ → ℚ × ℚ) (zs : ZeroShift) (f : ℕ) : ℤ → ℤ × ℤ :=
  fun i => (udfPeak (peaks i).1 (zs.get f).1, udfPeak (peaks i).2 (zs.get f).2)

/-- the result buffer of one frame: `n` entries (anything outside is not part of the buffer) -/
def frameResult (n : ℤ) (g : ℤ → EvalOut) : ℤ → Option EvalOut :=
  fun i => if 0 ≤ i ∧ i < n then some (g i) else none

/-- `FastCorrelationUDF.process_frame` on the partition's task data (crop buffers + output slots):
one call of the composed crop-based pipeline with the shifted peak list; `post` is whatever the
in-place stages leave in the buffers -/
def fastUdfStep (crop : CropFn ℚ) (L : ℚ → ℚ) (mask : ℤ → ℤ → ℚ) (c : ℕ) (post : (ℤ → ℤ → ℚ) → (ℤ → ℤ → ℚ))
    (frames : ℕ → ℤ → ℤ → ℚ) (fy fx : ℤ) (peaks : ℤ → ℚ × ℚ) (n b : ℤ) (zs : ZeroShift)
    (st : St ℚ EvalOut) (f : ℕ) : St ℚ EvalOut × (ℤ → Option EvalOut) :=
  let cl : Call ℚ := { frame := frames f, fy := fy, fx := fx, peaks := udfPeaks peaks zs f, n := n, b := b }
  let st' := processFrame fastArith crop (fastEval L mask c) post c (2 * c) (2 * c) st cl
  (st', frameResult n fun i => reanchor (st'.out i) (udfPeaks peaks zs f i).1 (udfPeaks peaks zs f i).2 c)

/-- What `fastUdfStep` returns for a frame: the stand-alone `fastPeak` at each shifted peak, whatever state `st` it started from. -/
theorem fastUdfStep_result {crop : CropFn ℚ} (hcrop : C09.Defining crop) (L : ℚ → ℚ) (mask : ℤ → ℤ → ℚ)
    {c : ℕ} (hc : 0 < c) (post : (ℤ → ℤ → ℚ) → (ℤ → ℤ → ℚ)) (frames : ℕ → ℤ → ℤ → ℚ) {fy fx : ℤ}
    (hfy : 0 ≤ fy) (hfx : 0 ≤ fx) (peaks : ℤ → ℚ × ℚ) {n b : ℤ} (hn : 0 ≤ n) (hb : 0 < b) (zs : ZeroShift)
    (st : St ℚ EvalOut) (f : ℕ) :
    (fastUdfStep crop L mask c post frames fy fx peaks n b zs st f).2
      = frameResult n fun i => fastPeak L mask (frames f) fy fx c (udfPeaks peaks zs f i) := by
  funext i
  unfold fastUdfStep frameResult
  dsimp only
  refine ite_congr rfl (fun hi => ?_) (fun _ => rfl)
  rw [C09.outputs_overwritten fastArith C08.fast_good crop hcrop _ post c _ _ (C09.fastEval_local L mask c hc)
    ⟨frames f, fy, fx, udfPeaks peaks zs f, n, b⟩ hfy hfx hn hb st i hi, fastPeak_eq, C09.windowCrop_eq_cropPixel]

/-- **C10 for the fast correlation UDF, model level**: for every schedule (any grouping of the frames
into partitions, any order), any crop back-end that defines its buffers, any buffer count and any
content the in-place stages leave behind, the stored result of every processed frame is the
stand-alone composed pipeline applied to that frame with the peak list `round(peaks) + round(zero
shift of that frame)`. -/
theorem fast_udf_schedule_result (crop : CropFn ℚ) (hcrop : C09.Defining crop) (L : ℚ → ℚ) (mask : ℤ → ℤ → ℚ)
    (c : ℕ) (hc : 0 < c) (post : (ℤ → ℤ → ℚ) → (ℤ → ℤ → ℚ)) (frames : ℕ → ℤ → ℤ → ℚ) (fy fx : ℤ)
    (hfy : 0 ≤ fy) (hfx : 0 ≤ fx) (peaks : ℤ → ℚ × ℚ) (n b : ℤ) (hn : 0 ≤ n) (hb : 0 < b) (zs : ZeroShift)
    (init : St ℚ EvalOut) (sched : List (List ℕ)) (res : ℕ → Option (ℤ → Option EvalOut)) (f : ℕ) :
    runSchedule init (fastUdfStep crop L mask c post frames fy fx peaks n b zs) sched res f
      = if f ∈ sched.flatten
        then some (frameResult n fun i => fastPeak L mask (frames f) fy fx c (udfPeaks peaks zs f i))
        else res f := by
  have key := fastUdfStep_result hcrop L mask hc post frames hfy hfx peaks hn hb zs
  rw [sched_result init _ fun t t' g => (key t g).trans (key t' g).symm, key]

/-- rounding of peaks and zero shift is half-to-even on both; integers are left alone -/
theorem udf_peaks (p zs : ℤ) : udfPeak (p : ℚ) (zs : ℚ) = p + zs := by
  unfold udfPeak; rw [round_int, round_int]

/-- buffer count from the byte limit never matters (C08) and neither does the crop back-end (C13) -/
theorem limit_and_backend_irrelevant {α β : Type} [OfNat α 0] (f : ℤ → β) (peaks : ℤ → ℤ) (n b b' : ℤ)
    (hn : 0 ≤ n) (hb : 0 < b) (hb' : 0 < b') (out : ℤ → β)
    (old frame : ℤ → ℤ → α) (fy fx c p0 p1 h w y x : ℤ) (hfy : 0 ≤ fy) (hfx : 0 ≤ fx)
    (hy : 0 ≤ y) (hyh : y < h) (hx : 0 ≤ x) (hxw : x < w) :
    runBlocks fastArith f peaks n b out = runBlocks fastArith f peaks n b' out ∧
    runBlocks fullArith f peaks n b out = runBlocks fullArith f peaks n b' out ∧
    cropSlice old frame fy fx c p0 p1 h w y x = cropPixel frame fy fx c p0 p1 y x :=
  ⟨C08.buffer_count_irrelevant C08.fast_good f peaks n b b' hn hb hb' out,
   C08.buffer_count_irrelevant C08.full_good f peaks n b b' hn hb hb' out,
   C13.cropSlice_eq_cropPixel old frame fy fx c p0 p1 h w y x hfy hfx hy hyh hx hxw⟩

/-- sum over an exact cover by tiles = sum over the frame (the linear part of the sparse UDF) -/
theorem tile_sum_decomposes (g : ℕ → ℚ) (tiles : List (List ℕ)) :
    lsum (tiles.map fun t => lsum (t.map g)) = lsum (tiles.flatten.map g) := by
  simp only [lsum_eq_sum, List.map_flatten, List.sum_flatten, List.map_map, Function.comp_def]

/-- **tiling independence of the sparse UDF, under the hypothesis that every tile contains a pixel
with the frame minimum** (then every tile log-scales with the frame minimum) -/
theorem sparse_tiling_indep_partial (L : ℚ → ℚ) (mask x : ℕ → ℚ) (tiles : List (List ℕ)) (m : ℚ)
    (hmin : ∀ t ∈ tiles, minList (t.map x) = m) :
    tiledDot L mask x tiles = lsum (tiles.flatten.map fun p => mask p * L (Gen.log_arg (x p) m)) := by
  unfold tiledDot
  rw [← tile_sum_decomposes]
  congr 1
  apply List.map_congr_left
  intro t ht
  unfold tileDot
  rw [hmin t ht]

/-- **Known finding D10**: without that hypothesis the result depends on the tiling — a frame with
pixels (0, 1), mask (1, 1) and `L = id`: one tile gives 3, two single-pixel tiles give 2. -/
theorem sparse_tiling_counterexample :
    tiledDot id (fun _ => 1) (fun p => if p = 0 then 0 else 1) [[0, 1]] = 3 ∧
    tiledDot id (fun _ => 1) (fun p => if p = 0 then 0 else 1) [[0], [1]] = 2 := by
  constructor <;> decide +kernel

/-- the sparse stack puts the mask centre on `peak + d` for every step offset `d` (C19 geometry) -/
theorem sparse_offset_center (peak d c : ℤ) (hc : 0 ≤ c) :
    Gen.sparse_offset peak d c + Gen.mask_center (Gen.sparse_size c) = peak + d := by
  unfold Gen.sparse_offset Gen.sparse_size
  rw [C16.mask_center_floor]; omega

end C10
