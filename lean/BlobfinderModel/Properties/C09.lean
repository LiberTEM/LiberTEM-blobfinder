import BlobfinderModel.Properties.C13
import BlobfinderModel.Properties.C08
import BlobfinderModel.Model.State
import BlobfinderModel.Proofs.Pipeline
/-!
# C09 — no state leaks between calls through reused buffers and output arrays

`St` holds the crop buffers and the output arrays.  A call crops into the buffers (seeing
their previous content), evaluates them and leaves in-place-modified data behind.
The theorems say: whatever the state was, every output entry of the current call is the
evaluation of the zero-padded window of *this* frame around *this* peak.
-/
namespace C09
open Model

variable {α β : Type} [OfNat α 0]

/-- `eval` only looks at the `h × w` cells of a crop. -/
def EvalLocal (eval : (Int → Int → α) → β) (h w : Int) : Prop :=
  ∀ g g' : Int → Int → α, (∀ y x, 0 ≤ y → y < h → 0 ≤ x → x < w → g y x = g' y x) → eval g = eval g'

/-- A cropping back-end is *defining* if every cell of the slot is determined by the frame and
the peak alone (C13's specification), whatever the slot held before. -/
def Defining (crop : CropFn α) : Prop :=
  ∀ (old frame : Int → Int → α) (fy fx c p0 p1 h w y x : Int), 0 ≤ fy → 0 ≤ fx →
    0 ≤ y → y < h → 0 ≤ x → x < w →
    crop old frame fy fx c p0 p1 h w y x = window frame fy fx (p0 - c + y) (p1 - c + x)

theorem pixelCrop_defining : Defining (pixelCrop (α := α)) := by
  intro old frame fy fx c p0 p1 h w y x _ _ _ _ _ _
  exact C13.cropPixel_eq_window frame fy fx c p0 p1 y x

theorem sliceCrop_defining : Defining (sliceCrop (α := α)) := by
  intro old frame fy fx c p0 p1 h w y x _ _ hy hyh hx hxw
  exact C13.cropSlice_eq_window old frame fy fx c p0 p1 h w y x hy hyh hx hxw

theorem windowCrop_eq_cropPixel (cl : Call α) (c i : Int) :
    windowCrop cl c i
      = fun y x => cropPixel cl.frame cl.fy cl.fx c (cl.peaks i).1 (cl.peaks i).2 y x := by
  funext y x; exact (C13.cropPixel_eq_window ..).symm

/-- after cropping, the evaluated value of a slot does not depend on the previous state -/
theorem crop_defines_block (crop : CropFn α) (hc : Defining crop) (eval : (Int → Int → α) → β)
    (h w : Int) (he : EvalLocal eval h w) (c : Int) (cl : Call α) (hfy : 0 ≤ cl.fy)
    (hfx : 0 ≤ cl.fx) (old : Int → Int → α) (i : Int) :
    eval (fun y x => crop old cl.frame cl.fy cl.fx c (cl.peaks i).1 (cl.peaks i).2 h w y x)
      = eval (windowCrop cl c i) := by
  apply he
  intro y x hy hyh hx hxw
  exact hc old cl.frame cl.fy cl.fx c _ _ h w y x hfy hfx hy hyh hx hxw

/-- the `out` component of the stateful loop is the stateless block loop of C08 applied to
`F i = eval (window of peak i)` -/
theorem runStN_out {A : BlockArith} {crop : CropFn α} (hc : Defining crop)
    {eval : (Int → Int → α) → β} {post : (Int → Int → α) → (Int → Int → α)} {c h w : Int}
    (he : EvalLocal eval h w) (cl : Call α) (hfy : 0 ≤ cl.fy) (hfx : 0 ≤ cl.fx) (st : St α β)
    (m : Nat) :
    (runStN A crop eval post c h w cl st m).out
      = runBlocksN A (fun i => eval (windowCrop cl c i)) (fun i => i) cl.n cl.b st.out m := by
  induction m with
  | zero => rfl
  | succ m ih =>
    funext i
    simp only [runStN, runBlocksN, blockStepSt, blockStep, ih]
    -- both loops test `start ≤ i < stop`; slot `i - start` was cropped around peak `start + (i - start)`
    refine ite_congr rfl (fun _ => ?_) (fun _ => rfl)
    rw [add_sub_cancel]
    exact crop_defines_block crop hc eval h w he c cl hfy hfx _ i

/-- **Outputs of a call do not depend on the state it starts from**: every entry `0 ≤ i < n`
is overwritten with the evaluation of this frame's window around peak `i`; this holds for any
buffer content, any previous content of the output arrays, both back-ends, any buffer count. -/
theorem outputs_overwritten (A : BlockArith) (hA : C08.GoodArith A) (crop : CropFn α)
    (hc : Defining crop) (eval : (Int → Int → α) → β) (post : (Int → Int → α) → (Int → Int → α))
    (c h w : Int) (he : EvalLocal eval h w) (cl : Call α) (hfy : 0 ≤ cl.fy) (hfx : 0 ≤ cl.fx)
    (hn : 0 ≤ cl.n) (hb : 0 < cl.b) (st : St α β) (i : Int) (hi : 0 ≤ i ∧ i < cl.n) :
    (processFrame A crop eval post c h w st cl).out i = eval (windowCrop cl c i) := by
  unfold processFrame
  rw [runStN_out hc he cl hfy hfx st]
  exact (C08.runBlocks_spec hA _ _ cl.n cl.b hn hb st.out i).trans (if_pos hi)

omit [OfNat α 0] in
theorem runHistory_snoc {A : BlockArith} {crop : CropFn α} {eval : (Int → Int → α) → β}
    {post : (Int → Int → α) → (Int → Int → α)} {c h w : Int} (st : St α β) (earlier : List (Call α))
    (cl : Call α) :
    runHistory A crop eval post c h w st (earlier ++ [cl])
      = processFrame A crop eval post c h w (runHistory A crop eval post c h w st earlier) cl := by
  unfold runHistory
  rw [List.foldl_append]
  rfl

theorem step_out_indep_state (A : BlockArith) (hA : C08.GoodArith A) (crop : CropFn α)
    (hc : Defining crop) (eval : (Int → Int → α) → β) (post : (Int → Int → α) → (Int → Int → α))
    (c h w : Int) (he : EvalLocal eval h w) (cl : Call α) (hfy : 0 ≤ cl.fy) (hfx : 0 ≤ cl.fx)
    (hn : 0 ≤ cl.n) (hb : 0 < cl.b) (st st' : St α β) (i : Int) (hi : 0 ≤ i ∧ i < cl.n) :
    (processFrame A crop eval post c h w st cl).out i
      = (processFrame A crop eval post c h w st' cl).out i := by
  rw [outputs_overwritten A hA crop hc eval post c h w he cl hfy hfx hn hb st i hi,
    outputs_overwritten A hA crop hc eval post c h w he cl hfy hfx hn hb st' i hi]

/-- **History independence**: after any sequence of earlier calls (other frames, other peak
lists, other buffer counts) on the same buffers and output arrays, the outputs of the last
call equal those of the same call on any other state (e.g. fresh zeroed buffers). -/
theorem history_indep (A : BlockArith) (hA : C08.GoodArith A) (crop : CropFn α)
    (hc : Defining crop) (eval : (Int → Int → α) → β) (post : (Int → Int → α) → (Int → Int → α))
    (c h w : Int) (he : EvalLocal eval h w) (earlier : List (Call α)) (cl : Call α)
    (hfy : 0 ≤ cl.fy) (hfx : 0 ≤ cl.fx) (hn : 0 ≤ cl.n) (hb : 0 < cl.b) (st fresh : St α β)
    (i : Int) (hi : 0 ≤ i ∧ i < cl.n) :
    (runHistory A crop eval post c h w st (earlier ++ [cl])).out i
      = (processFrame A crop eval post c h w fresh cl).out i := by
  rw [runHistory_snoc]
  exact step_out_indep_state A hA crop hc eval post c h w he cl hfy hfx hn hb _ fresh i hi

/-- the statement of `history_indep` for a fixed pipeline arithmetic and back-end -/
def HistoryIndep (α β : Type) [OfNat α 0] (A : BlockArith) (crop : CropFn α) : Prop :=
  ∀ (eval : (Int → Int → α) → β) (post : (Int → Int → α) → (Int → Int → α)) (c h w : Int),
    EvalLocal eval h w → ∀ (earlier : List (Call α)) (cl : Call α), 0 ≤ cl.fy → 0 ≤ cl.fx →
    0 ≤ cl.n → 0 < cl.b → ∀ (st fresh : St α β) (i : Int), 0 ≤ i ∧ i < cl.n →
    (runHistory A crop eval post c h w st (earlier ++ [cl])).out i
      = (processFrame A crop eval post c h w fresh cl).out i

/-- instantiations for the code as it is now: both pipelines × both back-ends -/
theorem fast_pixel_history_indep : HistoryIndep α β fastArith pixelCrop :=
  history_indep fastArith C08.fast_good pixelCrop pixelCrop_defining

theorem fast_slicing_history_indep : HistoryIndep α β fastArith sliceCrop :=
  history_indep fastArith C08.fast_good sliceCrop sliceCrop_defining

theorem full_pixel_history_indep : HistoryIndep α β fullArith pixelCrop :=
  history_indep fullArith C08.full_good pixelCrop pixelCrop_defining

theorem full_slicing_history_indep : HistoryIndep α β fullArith sliceCrop :=
  history_indep fullArith C08.full_good sliceCrop sliceCrop_defining

/-! ### The concrete composed pipelines: no locality hypothesis left

`Model.fastEval` (log scaling → correlation map → evaluation kernels) and `Model.fullEval` are the
per-crop functions of the composed pipeline model; they provably read only the `2c × 2c` cells of
the crop (`Model.fastEval_congr`, `Model.fullEval_congr`), so the history theorems hold for them
without the `EvalLocal` assumption. -/

theorem fastEval_local (L : ℚ → ℚ) (mask : ℤ → ℤ → ℚ) (c : ℕ) (hc : 0 < c) :
    EvalLocal (fastEval L mask c) (2 * c) (2 * c) :=
  fun g g' h => fastEval_congr L mask c hc g g' h

theorem fullEval_local (c : ℕ) (hc : 0 < c) : EvalLocal (fullEval c) (2 * c) (2 * c) :=
  fun g g' h => fullEval_congr c hc g g' h

/-- **C09 for the crop-based pipeline as composed in the model, both back-ends, any history**: after
any sequence of earlier calls on the same crop buffers and output arrays (whatever `post` leaves in
the buffers), entry `i` of the last call is the per-crop pipeline applied to the zero-padded window
of that call's frame around that call's peak `i` — a function of frame, mask and peak alone. -/
theorem fast_history_spec (crop : CropFn ℚ) (hcrop : Defining crop) (L : ℚ → ℚ) (mask : ℤ → ℤ → ℚ)
    (c : ℕ) (hc : 0 < c) (post : (ℤ → ℤ → ℚ) → (ℤ → ℤ → ℚ)) (earlier : List (Call ℚ)) (cl : Call ℚ)
    (hfy : 0 ≤ cl.fy) (hfx : 0 ≤ cl.fx) (hn : 0 ≤ cl.n) (hb : 0 < cl.b) (st : St ℚ EvalOut)
    (i : ℤ) (hi : 0 ≤ i ∧ i < cl.n) :
    (runHistory fastArith crop (fastEval L mask c) post c (2 * c) (2 * c) st (earlier ++ [cl])).out i
      = fastEval L mask c (windowCrop cl c i) := by
  rw [runHistory_snoc]
  exact outputs_overwritten fastArith C08.fast_good crop hcrop _ post c _ _ (fastEval_local L mask c hc)
    cl hfy hfx hn hb _ i hi

/-- the same for the block loop of the full-frame pipeline (the "frame" it crops from is the
frame-sized correlation map, recomputed from the frame buffer on every call) -/
theorem full_history_spec (crop : CropFn ℚ) (hcrop : Defining crop) (c : ℕ) (hc : 0 < c)
    (post : (ℤ → ℤ → ℚ) → (ℤ → ℤ → ℚ)) (earlier : List (Call ℚ)) (cl : Call ℚ)
    (hfy : 0 ≤ cl.fy) (hfx : 0 ≤ cl.fx) (hn : 0 ≤ cl.n) (hb : 0 < cl.b) (st : St ℚ EvalOut)
    (i : ℤ) (hi : 0 ≤ i ∧ i < cl.n) :
    (runHistory fullArith crop (fullEval c) post c (2 * c) (2 * c) st (earlier ++ [cl])).out i
      = fullEval c (windowCrop cl c i) := by
  rw [runHistory_snoc]
  exact outputs_overwritten fullArith C08.full_good crop hcrop _ post c _ _ (fullEval_local c hc)
    cl hfy hfx hn hb _ i hi

/-- both back-ends satisfy the hypothesis of the two theorems above -/
theorem backends_defining : Defining (pixelCrop (α := ℚ)) ∧ Defining (sliceCrop (α := ℚ)) :=
  ⟨pixelCrop_defining, sliceCrop_defining⟩

/-- **frame condition**: whatever the history of the run so far, a call never writes an output entry outside `[0, n)`
nor a buffer slot outside `[0, b)` (`n` peaks, `b` buffers): what lies behind the peak list / beyond the buffer stack of
this call keeps its previous content -/
theorem runStN_frame (A : BlockArith) (hA : C08.GoodArith A) (crop : CropFn α)
    (eval : (Int → Int → α) → β) (post : (Int → Int → α) → (Int → Int → α)) (c h w : Int)
    (cl : Call α) (hb : 0 < cl.b) (st : St α β) (m : Nat) :
    (∀ i, (i < 0 ∨ cl.n ≤ i) → (runStN A crop eval post c h w cl st m).out i = st.out i) ∧
    (∀ j y x, (j < 0 ∨ cl.b ≤ j) → (runStN A crop eval post c h w cl st m).bufs j y x = st.bufs j y x) := by
  induction m with
  | zero => exact ⟨fun _ _ => rfl, fun _ _ _ _ => rfl⟩
  | succ m ih =>
    obtain ⟨h0, hn, hsz⟩ := C08.block_range hA cl.n cl.b m hb (Int.natCast_nonneg m)
    -- block `m` writes entries `[start, stop) ⊆ [0, n)` and slots `[0, size) ⊆ [0, b)`: its `if` takes the `else` branch here
    refine ⟨fun i hi => ?_, fun j y x hj => ?_⟩
    · exact (if_neg (by omega)).trans (ih.1 i hi)
    · exact (if_neg (by omega)).trans (ih.2 j y x hj)

theorem processFrame_frame (A : BlockArith) (hA : C08.GoodArith A) (crop : CropFn α)
    (eval : (Int → Int → α) → β) (post : (Int → Int → α) → (Int → Int → α)) (c h w : Int)
    (st : St α β) (cl : Call α) (hb : 0 < cl.b) :
    (∀ i, (i < 0 ∨ cl.n ≤ i) → (processFrame A crop eval post c h w st cl).out i = st.out i) ∧
    (∀ j y x, (j < 0 ∨ cl.b ≤ j) → (processFrame A crop eval post c h w st cl).bufs j y x = st.bufs j y x) :=
  runStN_frame A hA crop eval post c h w cl hb st _

/-- Defect D1 (pre-repair): without the zero fill the slicing back-end is *not* defining, and a
two-call history leaks: the value left by the first frame shows up in the second result. -/
theorem leak_prefix_counterexample :
    ¬ Defining (sliceCropNoFill (α := Int)) := by
  intro h
  have := h (fun _ _ => 7) (fun y x => 6 * y + x + 1) 6 6 2 0 0 4 4 0 0
    (by decide) (by decide) (by decide) (by decide) (by decide) (by decide)
  revert this
  decide

end C09
