import BlobfinderModel.Properties.C01
/-!
# C07 — peak finding returns the true disk positions for every frame shape  (partial)
Proved: `get_correlation` inverts with the frame's own shape and shifts with `ifftshift` (source
pinned), so by `C03.corr_index_map` the response to a pixel-centred feature is read with the mask
centred on that pixel for even, odd and non-square shapes; on the circular frame, well separated
disks give map values at their centres that are linear in their brightness with one common slope —
brightness order = height order.
For flat (hard-edged) disks and sign-matched templates each centre is a strict peak: at every other pixel from which the
mask reaches that disk only, the map is strictly lower (`separated_disks_local`, `separated_disk_is_strict_peak`), and a
pixel out of reach of every disk sees the background value only (`separated_background`).
Residual (oracle): the same for the library's antialiased disks / masks and the behaviour of
`skimage.feature.peak_local_max` (A-EXT).
-/
namespace C07
open Model C01

/-- `Gen.getcorr_shift`, pinned from `get_correlation`, is the second spelling of `ifftshift` that `shiftSrc` knows -/
theorem shiftSrc_getcorr (n j : ℤ) : shiftSrc Gen.getcorr_shift n j = (j + n / 2) % n := if_pos (Or.inr rfl)

/-- with that shift a feature on pixel `q` is seen with the mask centre on `q`, for every axis
length (even or odd) -/
theorem corr_peak_index (mask : ℤ → ℚ) (n q : ℤ) (hn : 0 < n) (hq : 0 ≤ q ∧ q < n) :
    circConv1 mask (fun t => if t = q then 1 else 0) n (shiftSrc Gen.getcorr_shift n q) = mask (n / 2) := by
  rw [shiftSrc_getcorr, ← shiftSrc_ifftshift]
  exact C03.corr_peak_index mask n q hn hq

/-- **`get_correlation` as the source has it now is the direct circular sum, via the FFT route, for
every frame shape (even, odd, non-square)**: the model's map value at `(y, x)` is the inverse 2-D DFT
of the product of the DFTs of mask and frame read at `((y + H//2) mod H, (x + W//2) mod W)` — what
`ifftshift(irfft2(rfft2(mask) * rfft2(frame), s=frame.shape))[y, x]` denotes (the mathematical part
of A-FFT, see `C03.corr_is_fft_route`). -/
theorem get_correlation_is_fft_route (mask data : ℤ → ℤ → ℚ) (H W : ℕ) [NeZero H] [NeZero W] (y x : ℤ) :
    ((corrMap Gen.getcorr_shift mask data H W y x : ℚ) : ℂ)
      = Fourier.invDft2 (fun k1 k2 => Fourier.dft2 (liftZ H W mask) k1 k2 * Fourier.dft2 (liftZ H W data) k1 k2)
          (((y + (H : ℤ) / 2) % (H : ℤ) : ℤ) : ZMod H) (((x + (W : ℤ) / 2) % (W : ℤ) : ℤ) : ZMod W) := by
  rw [corrMap_eq_invDft2, shiftSrc_getcorr, shiftSrc_getcorr]

/-- Defect D4: `fftshift` and a default-length inverse transform displace the map for odd sizes -/
theorem fftshift_counterexample : shiftSrc "correlation.fft.fftshift" 5 2 ≠ shiftSrc Gen.getcorr_shift 5 2 := by
  decide +kernel

/-- **locality for well separated features**: at any pixel `j` from which the mask reaches no feature other than `k`,
the map of the whole frame equals the map of a frame that contains feature `k` alone -/
theorem separated_disks_local {G ι : Type} [AddCommGroup G] [Fintype G] [DecidableEq ι]
    (s : Finset ι) (c : G) (mask d : G → ℚ) (q : ι → G) (A : ι → ℚ) (B : ℚ) (k : ι) (hk : k ∈ s) (j : G)
    (hsep : ∀ l ∈ s, l ≠ k → ∀ m : G, mask m * d (j + c - m - q l) = 0) :
    gcorr c mask (fun x => (∑ l ∈ s, A l * d (x - q l)) + B) j
      = gcorr c mask (fun x => A k * d (x - q k) + B) j := by
  rw [gcorr_sum_affine s c mask (fun l x => d (x - q l)), gcorr_affine c mask (fun x => d (x - q k)),
    Finset.sum_eq_single_of_mem k hk]
  -- left over by `sum_eq_single_of_mem`: the term of every other feature `l` vanishes
  intro l hl hlk
  rw [gcorr, Finset.sum_eq_zero fun m _ => hsep l hl hlk m, mul_zero]

/-- **well separated disks: the map value at the centre of disk `k` is `A_k · S + B · Σ mask` with
one common `S`** (the overlap of the mask with a single disk), on any finite abelian group of pixel
positions; `hsep` says that, seen from the mask placed on `q k`, every other disk is out of reach -/
theorem separated_disks_linear {G ι : Type} [AddCommGroup G] [Fintype G] [DecidableEq ι]
    (s : Finset ι) (c : G) (mask d : G → ℚ) (q : ι → G) (A : ι → ℚ) (B : ℚ) (k : ι) (hk : k ∈ s)
    (hsep : ∀ l ∈ s, l ≠ k → ∀ m : G, mask m * d (q k + c - m - q l) = 0) :
    gcorr c mask (fun x => (∑ l ∈ s, A l * d (x - q l)) + B) (q k)
      = A k * (∑ m : G, mask m * d (c - m)) + B * ∑ m : G, mask m := by
  rw [separated_disks_local s c mask d q A B k hk (q k) hsep, gcorr_affine c mask (fun x => d (x - q k)), gcorr]
  -- under `d`: `q k + c - m - q k = c - m`
  exact congrArg (A k * · + _) (Finset.sum_congr rfl fun m _ => by rw [sub_right_comm, add_sub_cancel_left])

/-- a pixel from which the mask reaches no feature at all sees the background only -/
theorem separated_background {G ι : Type} [AddCommGroup G] [Fintype G]
    (s : Finset ι) (c : G) (mask d : G → ℚ) (q : ι → G) (A : ι → ℚ) (B : ℚ) (j : G)
    (hfar : ∀ l ∈ s, ∀ m : G, mask m * d (j + c - m - q l) = 0) :
    gcorr c mask (fun x => (∑ l ∈ s, A l * d (x - q l)) + B) j = B * ∑ m : G, mask m := by
  rw [gcorr_sum_affine s c mask (fun l x => d (x - q l)), Finset.sum_eq_zero, zero_add]
  -- left over by `sum_eq_zero`: the term of every feature `l` vanishes
  intro l hl
  rw [gcorr, Finset.sum_eq_zero fun m _ => hfar l hl m, mul_zero]

/-- **every disk centre dominates its surroundings strictly**: flat disks `q l + S` of amplitudes `A l`, a sign-matched
template that is positive on `S`; at every pixel `j ≠ q k` from which the mask reaches no disk other than `k`, the map is
strictly below its value at the centre `q k` -/
theorem separated_disk_is_strict_peak {G ι : Type} [AddCommGroup G] [Fintype G] [DecidableEq G] [DecidableEq ι]
    (s : Finset ι) (c : G) (mask : G → ℚ) (S : Finset G) (q : ι → G) (A : ι → ℚ) (B : ℚ) (k : ι) (hk : k ∈ s)
    (hA : 0 < A k) (hS : ∀ u, u ∈ S ↔ -u ∈ S)
    (hin : ∀ u ∈ S, 0 < mask (c + u)) (hout : ∀ u, u ∉ S → mask (c + u) ≤ 0)
    (hshape : ∀ d : G, d ≠ 0 → ∃ u ∈ S, d - u ∉ S)
    (j : G) (hj : j ≠ q k)
    (hsepj : ∀ l ∈ s, l ≠ k → ∀ m : G, mask m * (if j + c - m - q l ∈ S then (1 : ℚ) else 0) = 0)
    (hsepq : ∀ l ∈ s, l ≠ k → ∀ m : G, mask m * (if q k + c - m - q l ∈ S then (1 : ℚ) else 0) = 0) :
    gcorr c mask (fun x => (∑ l ∈ s, A l * (if x - q l ∈ S then (1 : ℚ) else 0)) + B) j
      < gcorr c mask (fun x => (∑ l ∈ s, A l * (if x - q l ∈ S then (1 : ℚ) else 0)) + B) (q k) := by
  have h1 := separated_disks_local s c mask (fun x => if x ∈ S then (1 : ℚ) else 0) q A B k hk j hsepj
  have h2 := separated_disks_local s c mask (fun x => if x ∈ S then (1 : ℚ) else 0) q A B k hk (q k) hsepq
  rw [h1, h2]
  exact sign_matched_unique c (q k) mask S (A k) B hA hS hin hout hshape j hj

/-- so for a positive overlap `S` the brightness order is the height order -/
theorem brightness_order (S Bm A1 A2 : ℚ) (hS : 0 < S) (h : A1 < A2) : A1 * S + Bm < A2 * S + Bm :=
  add_lt_add_left (mul_lt_mul_of_pos_right h hS) Bm

end C07
