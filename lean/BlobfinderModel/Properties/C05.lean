import BlobfinderModel.Proofs.Rigid
import BlobfinderModel.Proofs.FastNoisy
/-!
# C05 — fast matching keeps inliers, rejects outliers and weak peaks, never raises  (partial)

Proved here (exact arithmetic, every input): shape invariants of a valid match, selection ⇔
(weight ok ∧ squared scaled error < tolerance²), exact lattice points are selected with their true
indices, weak peaks are never selected, the returned lattice is the weighted least-squares fit of
the selected peaks (C06), singular start vectors and too few matches give the invalid match,
translation and (rational) rigid equivariance; the robustness window: one round against any
lattice (`inlier_matched`, `inlier_matched_kappa`, `half_cell_rejected`), both rounds for noise-free
node peaks (`fastmatch_exact_recovery`: exact lattice, exactly the strong node peaks) and both
rounds for noisy peaks (`noisy_inliers_kept`: the first fit is within `ε sqrt(Σw vᵀN⁻¹v)` of the
truth at every node, and every inlier whose bound fits the tolerance is kept with its true indices;
`noisy_selection`: peaks near a half-cell position of the true lattice are rejected by the second round).
**Not proved**: that *no* outlier is selected in the noisy case beyond `half_cell_rejected` applied to
the fitted lattice, the behaviour of float singularity detection on nearly parallel vectors, and
irrational rotation angles (oracle only).
-/
namespace C05
open Model

/-- the comparison operators of the matcher, regenerated from the source -/
theorem operators (elev mw err tol : ℚ) (n mm : ℤ) :
    (Gen.fm_weight_ok elev mw = true ↔ mw ≤ elev) ∧ (Gen.fm_enough n mm = true ↔ mm ≤ n) ∧
    (Gen.fm_matched err tol = true ↔ err < tol) :=
  ⟨fm_weight_ok_iff elev mw, fm_enough_iff n mm, by unfold Gen.fm_matched; rw [decide_eq_true_eq]⟩

/-- **noise-free lattice points are matched, with their true indices, from the exact start**
for every positive tolerance and all non-parallel lattice vectors -/
theorem exact_lattice_selected (zero a b : V2) (i j : ℤ) (tol : ℚ) (htol : 0 < tol)
    (hd : det2 a b ≠ 0) :
    let ij := (getIndices zero a b (calcCoord zero a b ((i : ℚ), (j : ℚ)))).getD (0, 0)
    isMatched a b tol ij = true ∧ (roundHalfEven ij.1, roundHalfEven ij.2) = (i, j) := by
  exact on_node zero a b tol htol hd ⟨calcCoord zero a b ((i : ℚ), (j : ℚ)), 0⟩ i j rfl

/-- selection rule of `_match_all`, point by point -/
theorem selection_char (peaks : List Peak) (sel : List Bool) (zero a b : V2) (tol : ℚ)
    (m : List Bool) (idx : List (ℤ × ℤ)) (h : matchAll peaks sel zero a b tol = some (m, idx)) :
    m = (sel.zip (peaks.map fun p => (getIndices zero a b p.pos).getD (0, 0))).map
          fun (s, ij) => s && isMatched a b tol ij :=
  (matchAll_eq_some h).2.1

/-- parallel / zero start vectors give the invalid match -/
theorem singular_start_invalid (peaks : List Peak) (zero a b : V2) (tol mw : ℚ) (mm : ℤ)
    (hd : det2 a b = 0) : fastmatch peaks zero a b tol mw mm = .invalid := by
  unfold fastmatch
  simp only [(matchAll_eq_none_iff ..).mpr hd]

/-- **A valid match has equally many indices and selected peaks, one selector entry per peak, and
every selected peak has elevation ≥ min_weight** (weak peaks are never selected). -/
theorem valid_invariants (peaks : List Peak) (zero a b : V2) (tol mw : ℚ) (mm : ℤ)
    (z2 a2 b2 : V2) (m : List Bool) (idx : List (ℤ × ℤ))
    (h : fastmatch peaks zero a b tol mw mm = .valid z2 a2 b2 m idx) :
    m.length = peaks.length ∧ idx.length = (m.filter id).length ∧
    ∀ k (hk : k < m.length) (hp : k < peaks.length), m[k] = true → mw ≤ (peaks[k]).elev := by
  obtain ⟨z1, a1, b1, _, _, _, rfl, rfl, _⟩ := fastmatch_valid_form peaks zero a b tol mw mm z2 a2 b2 m idx h
  refine ⟨List.length_map _, ?_, ?_⟩
  · rw [List.filter_map, List.length_map, List.length_map]; rfl
  · intro k hk hp hmk
    rw [List.getElem_map, selBy_iff] at hmk
    exact (fm_weight_ok_iff _ _).mp hmk.1

/-- fewer than `min_match` matches in the first round give the invalid match -/
theorem too_few_invalid (peaks : List Peak) (zero a b : V2) (tol mw : ℚ) (mm : ℤ)
    (m1 : List Bool) (idx1 : List (ℤ × ℤ))
    (h1 : matchAll peaks (peaks.map fun p => Gen.fm_weight_ok p.elev mw) zero a b tol = some (m1, idx1))
    (hfew : (idx1.length : ℤ) < mm) : fastmatch peaks zero a b tol mw mm = .invalid := by
  have : Gen.fm_enough (idx1.length : ℤ) mm = false := by
    rw [← Bool.not_eq_true, fm_enough_iff, not_le]
    exact hfew
  unfold fastmatch
  simp [h1, this]

/-- **nothing matched in the first round ⇒ the invalid match, whatever `min_match`** -- also for `min_match ≤ 0` ("accept
every frame"), where the count test lets the empty selection through: the fit of nothing has no solution
(`weightedOptimize … [] = none`) and the outcome is the invalid match, never an error -/
theorem nothing_matched_invalid (peaks : List Peak) (zero a b : V2) (tol mw : ℚ) (mm : ℤ) (m1 : List Bool)
    (h1 : matchAll peaks (peaks.map fun p => Gen.fm_weight_ok p.elev mw) zero a b tol = some (m1, [])) :
    fastmatch peaks zero a b tol mw mm = .invalid := by
  have hw : weightedOptimize peaks m1 [] = none := by
    unfold weightedOptimize obsFor
    simp only [List.zip_nil_right, List.map_nil]
    rw [(solveNormal_eq_none_iff _).mpr normalOf_nil_det]
  unfold fastmatch
  simp only [h1, hw, List.length_nil]
  split <;> rfl

/-- non-vacuity: `min_match = 0`, one strong peak half a cell off the lattice, one weak peak on it -/
example : fastmatch [⟨(5, 5), 1⟩, ⟨(10, 0), 1 / 100⟩] (0, 0) (10, 0) (0, 10) 2 (1 / 10) 0 = .invalid := by
  decide +kernel

/-- **The lattice of a valid match is the weighted least-squares fit of its own selected peaks**
(weights = elevations): it satisfies the normal equations in both coordinates, hence minimises
the weighted squared distance by `C06.lsq_optimal`. -/
theorem result_is_wls (peaks : List Peak) (zero a b : V2) (tol mw : ℚ) (mm : ℤ)
    (z2 a2 b2 : V2) (m : List Bool) (idx : List (ℤ × ℤ))
    (h : fastmatch peaks zero a b tol mw mm = .valid z2 a2 b2 m idx) :
    NormalEqs z2.1 a2.1 b2.1 (obsFor peaks m idx (·.1)) ∧
    NormalEqs z2.2 a2.2 b2.2 (obsFor peaks m idx (·.2)) := by
  obtain ⟨_, _, _, _, _, _, _, _, hfit⟩ := fastmatch_valid_form peaks zero a b tol mw mm z2 a2 b2 m idx h
  exact weightedOptimize_normalEqs hfit

/-- translating all positions and the zero point leaves the computed indices unchanged -/
theorem translation_invariant_indices (zero a b p t : V2) :
    getIndices (vadd zero t) a b (vadd p t) = getIndices zero a b p := by
  unfold getIndices vadd vsub
  simp only [add_sub_add_right_eq_sub]

/-- **Rigid equivariance of the fast match (model level, exact arithmetic)**: for every rational
orthogonal map `R` (rotations such as the 3-4-5 rotation, reflections) and every translation `t`,
running the match on the moved peaks with the moved start lattice gives the moved result — the same
selector, the same integer indices, zero point `R z + t`, lattice vectors `R a`, `R b`; an invalid
match stays invalid.  Irrational rotation angles are covered by the oracle only. -/
theorem rigid_equivariant (R : Lin) (hR : R.Orthogonal) (t : V2) (peaks : List Peak) (zero a b : V2)
    (tol minWeight : ℚ) (minMatch : ℤ) :
    fastmatch (peaks.map (Peak.move R t)) (R.move t zero) (R.app a) (R.app b) tol minWeight minMatch
      = (fastmatch peaks zero a b tol minWeight minMatch).move R t := by
  unfold fastmatch
  have hf : ((peaks.map (Peak.move R t)).map fun p => Gen.fm_weight_ok p.elev minWeight)
      = peaks.map fun p => Gen.fm_weight_ok p.elev minWeight := by
    rw [List.map_map]; rfl
  -- both sides walk through the same cases; in each the two rounds and the two fits commute with the motion
  simp only [hf, matchAll_move R hR, weightedOptimize_move]
  generalize matchAll peaks (peaks.map fun p => Gen.fm_weight_ok p.elev minWeight) zero a b tol = r1
  obtain _ | ⟨m1, idx1⟩ := r1
  · rfl
  by_cases hen : (!Gen.fm_enough idx1.length minMatch) = true
  · simp only [hen, if_true]; rfl
  simp only [hen, if_false, Bool.false_eq_true]
  generalize weightedOptimize peaks m1 idx1 = f1
  obtain _ | ⟨z1, a1, b1⟩ := f1
  · dsimp only [Option.map_none]
    split_ifs <;> rfl
  simp only [Option.map_some, matchAll_move R hR]
  generalize matchAll peaks (peaks.map fun p => Gen.fm_weight_ok p.elev minWeight) z1 a1 b1 tol = r2
  obtain _ | ⟨m2, idx2⟩ := r2
  · rfl
  dsimp only
  generalize weightedOptimize peaks m2 idx2 = f2
  obtain _ | ⟨z2, a2, b2⟩ := f2
  · dsimp only [Option.map_none]
    split_ifs <;> rfl
  · rfl

/-- the selection step alone is invariant, for any working selection (so in both rounds) -/
theorem match_all_rigid (R : Lin) (hR : R.Orthogonal) (t : V2) (peaks : List Peak) (sel : List Bool)
    (zero a b : V2) (tol : ℚ) :
    matchAll (peaks.map (Peak.move R t)) sel (R.move t zero) (R.app a) (R.app b) tol
      = matchAll peaks sel zero a b tol :=
  matchAll_move R hR t peaks sel zero a b tol

/-- non-vacuity: the 3-4-5 rotation is orthogonal, and it moves a valid match to a valid match -/
example : (⟨3 / 5, -4 / 5, 4 / 5, 3 / 5⟩ : Lin).Orthogonal := by
  unfold Lin.Orthogonal; norm_num

example :
    fastmatch ([⟨(0, 0), 1⟩, ⟨(10, 0), 1⟩, ⟨(0, 10), 1⟩, ⟨(10, 10), 1⟩].map (Peak.move ⟨3 / 5, -4 / 5, 4 / 5, 3 / 5⟩ (7, -2)))
      ((⟨3 / 5, -4 / 5, 4 / 5, 3 / 5⟩ : Lin).move (7, -2) (0, 0)) ((⟨3 / 5, -4 / 5, 4 / 5, 3 / 5⟩ : Lin).app (10, 0))
      ((⟨3 / 5, -4 / 5, 4 / 5, 3 / 5⟩ : Lin).app (0, 10)) 3 (1 / 10) 3
    = .valid (7, -2) (6, 8) (-8, 6) [true, true, true, true] [(0, 0), (1, 0), (0, 1), (1, 1)] := by
  decide +kernel

/-- non-vacuity: four points of an exact square lattice are all matched -/
example : fastmatch [⟨(0, 0), 1⟩, ⟨(10, 0), 1⟩, ⟨(0, 10), 1⟩, ⟨(10, 10), 1⟩] (0, 0) (10, 0) (0, 10) 3 (1 / 10) 3
    = .valid (0, 0) (10, 0) (0, 10) [true, true, true, true] [(0, 0), (1, 0), (0, 1), (1, 1)] := by
  decide +kernel

/-! ### the robustness window, in exact arithmetic

One round of `_match_all` against *any* regular lattice `(zero, a, b)` of conditioning
`κ ≥ ‖a‖²‖b‖²/det(a, b)²` (`κ = 4/3` covers vectors between 60° and 120° apart, `4 (a·b)² ≤ ‖a‖²‖b‖²`):
a peak displaced by `e` from node `(i, j)` of that lattice is selected with indices `(i, j)` as soon as
`‖e‖` is small against the tolerance and the cell; a peak half a cell away is rejected.  The lattice is the one the round is run against, so `e` contains the noise
of the peak *and* the error of the start parameters at that node
(`(z_true - z) + i (a_true - a) + j (b_true - b)`).
-/

/-- the one-round window for any regular lattice: `κ = ‖a‖²‖b‖²/det(a,b)²` (4/3 at 60°/120°, 1 at 90°),
`B` a bound on `κ‖e‖²`, which bounds both squared index shifts in units of the cell (`index_shift_sq_le_kappa`) -/
theorem inlier_matched_kappa (zero a b e : V2) (i j : ℤ) (tol kappa B : ℚ) (htol : 0 < tol)
    (hd : det2 a b ≠ 0) (hk : norm2 a * norm2 b ≤ kappa * det2 a b ^ 2)
    (he : kappa * norm2 e ≤ B) (ha : 4 * B < norm2 a) (hb : 4 * B < norm2 b) (ht : 2 * B < tol ^ 2) :
    let ij := (getIndices zero a b (vadd (calcCoord zero a b ((i : ℚ), (j : ℚ))) e)).getD (0, 0)
    isMatched a b tol ij = true ∧ (roundHalfEven ij.1, roundHalfEven ij.2) = (i, j) := by
  simp only [indices_displaced zero a b e _ _ hd, Option.getD_some]
  have s1 := (index_shift_sq_le_kappa a b e kappa hd hk).trans he
  have s2 := (index_shift_sq_le_kappa_snd a b e kappa hd hk).trans he
  obtain ⟨hna, hnb⟩ := norm2_pos_of_det a b hd
  -- both index shifts are below 1/2, so the indices round to `(i, j)` …
  have ri := round_add_of_sq_mul_le i s1 ha hna
  have rj := round_add_of_sq_mul_le j s2 hb hnb
  refine ⟨?_, by rw [ri, rj]⟩
  -- … and the unscaled error is the sum of the two squared shifts
  rw [isMatched_iff]
  refine ⟨htol.le, lt_of_le_of_lt (err2_le_unscaled _ _ _) ?_⟩
  simp only [ri, rj, add_sub_cancel_left]
  rw [two_mul] at ht
  exact (add_le_add s1 s2).trans_lt ht

/-- **inliers are kept with their true indices**: `‖e‖ ≤ ε`, `(8/3) ε² < tol²` and
`(16/3) ε² < min(‖a‖², ‖b‖²)` suffice.  For ε = 0.3 px + start error this is far inside the default
tolerance of 3 px and the 20 px cells of the statement. -/
theorem inlier_matched (zero a b e : V2) (i j : ℤ) (tol eps : ℚ) (htol : 0 < tol)
    (hd : det2 a b ≠ 0) (hang : 4 * dot a b ^ 2 ≤ norm2 a * norm2 b)
    (he : norm2 e ≤ eps ^ 2) (ha : 16 / 3 * eps ^ 2 < norm2 a) (hb : 16 / 3 * eps ^ 2 < norm2 b)
    (ht : 8 / 3 * eps ^ 2 < tol ^ 2) :
    let ij := (getIndices zero a b (vadd (calcCoord zero a b ((i : ℚ), (j : ℚ))) e)).getD (0, 0)
    isMatched a b tol ij = true ∧ (roundHalfEven ij.1, roundHalfEven ij.2) = (i, j) := by
  -- `16/3 = 4κ` and `8/3 = 2κ` for `κ = 4/3`
  rw [show (16 : ℚ) / 3 = 4 * (4 / 3) by norm_num, mul_assoc] at ha hb
  rw [show (8 : ℚ) / 3 = 2 * (4 / 3) by norm_num, mul_assoc] at ht
  exact inlier_matched_kappa zero a b e i j tol (4 / 3) (4 / 3 * eps ^ 2) htol hd (kappa_of_angle a b hang)
    (mul_le_mul_of_nonneg_left he (by norm_num)) ha hb ht

/-- a position within `r` (per coordinate) of node `(i, j)` of a regular lattice is matched, with the indices `(i, j)`:
`inlier_matched_kappa` for a displacement with `‖e‖² ≤ 2r²` (`exists_displacement`), which is where `4κr²`, `8κr²` come from -/
theorem near_node_kept (z1 a1 b1 pos : V2) (i j : ℤ) (tol kappa r : ℚ) (htol : 0 < tol)
    (hd1 : det2 a1 b1 ≠ 0) (hk : norm2 a1 * norm2 b1 ≤ kappa * det2 a1 b1 ^ 2) (hkp : 0 ≤ kappa)
    (h1 : |pos.1 - (calcCoord z1 a1 b1 ((i : ℚ), (j : ℚ))).1| ≤ r)
    (h2 : |pos.2 - (calcCoord z1 a1 b1 ((i : ℚ), (j : ℚ))).2| ≤ r)
    (ht : 4 * kappa * r ^ 2 < tol ^ 2) (ha : 8 * kappa * r ^ 2 < norm2 a1) (hb : 8 * kappa * r ^ 2 < norm2 b1) :
    isMatched a1 b1 tol ((getIndices z1 a1 b1 pos).getD (0, 0)) = true ∧
      (roundHalfEven ((getIndices z1 a1 b1 pos).getD (0, 0)).1, roundHalfEven ((getIndices z1 a1 b1 pos).getD (0, 0)).2) = (i, j) := by
  obtain ⟨e, rfl, hE⟩ := exists_displacement pos _ r h1 h2
  exact inlier_matched_kappa z1 a1 b1 e i j tol kappa (kappa * (2 * r ^ 2)) htol hd1 hk (mul_le_mul_of_nonneg_left hE hkp)
    (by linarith only [ha]) (by linarith only [hb]) (by linarith only [ht])

/-- a peak whose fractional index along `a` is far from every integer is rejected -/
theorem far_not_matched_first (a b ij : V2) (tol : ℚ)
    (h : tol ^ 2 * rmax 1 (rabs ij.1) ≤ (ij.1 - (roundHalfEven ij.1 : ℚ)) ^ 2 * norm2 a) :
    isMatched a b tol ij = false := by
  rw [← Bool.not_eq_true, isMatched_iff, not_and, not_lt]
  intro _
  refine le_trans ?_ (err2_ge_first a b ij)
  rwa [le_div_iff₀ (lt_of_lt_of_le zero_lt_one (one_le_rmax _))]

/-- **half-cell outliers are rejected**: a peak displaced by `e` (`‖e‖ ≤ ε`) from the position
`(i + 1/2, y)` of the lattice the round is run against is not selected when
`tol² · max(1, |index|) ≤ (1/2 - η)² ‖a‖²`, where `η² ‖a‖² = (4/3) ε²` bounds the index shift caused by `e`.
The `max(1, |index|)` is the square-root relaxation of the tolerance at high orders: the statement's
half-cell rejection needs `tol < (1/2 - η) ‖a‖ / sqrt(|index|)`, and the oracle draws its far outliers
accordingly. -/
theorem half_cell_rejected (zero a b e : V2) (i : ℤ) (y tol eta : ℚ)
    (hd : det2 a b ≠ 0) (heta : |det2 e b / det2 a b| ≤ eta) (heta2 : eta ≤ 1 / 2)
    (hfar : tol ^ 2 * rmax 1 (rabs ((i : ℚ) + 1 / 2 + det2 e b / det2 a b)) ≤ (1 / 2 - eta) ^ 2 * norm2 a) :
    isMatched a b tol
      ((getIndices zero a b (vadd (calcCoord zero a b ((i : ℚ) + 1 / 2, y)) e)).getD (0, 0)) = false := by
  simp only [indices_displaced zero a b e _ _ hd, Option.getD_some]
  apply far_not_matched_first
  refine hfar.trans (mul_le_mul_of_nonneg_right ?_ (norm2_nonneg a))
  -- `half_cell_far` at the rounded index, both sides squared (`0 ≤ 1/2 - η`)
  exact (pow_le_pow_left₀ (sub_nonneg.mpr heta2) (half_cell_far i _ eta heta _) 2).trans_eq (sq_abs _)

/-- non-vacuity of the two window theorems: a 20 px square lattice, a peak 0.3 px off node (2, -1) is
kept for tol = 1; a peak exactly half a cell off along `a` at order 3 is rejected for tol = 3 -/
example : isMatched (20, 0) (0, 20) 1
    ((getIndices (50, 50) (20, 0) (0, 20) (vadd (calcCoord (50, 50) (20, 0) (0, 20) (2, -1)) (3 / 10, 0))).getD (0, 0)) = true := by
  decide +kernel
example : isMatched (20, 0) (0, 20) 3
    ((getIndices (50, 50) (20, 0) (0, 20) (vadd (calcCoord (50, 50) (20, 0) (0, 20) (3 + 1 / 2, 1)) (0, 0))).getD (0, 0)) = false := by
  decide +kernel

/-- **half-cell outliers are rejected by any regular lattice they are displaced from by a bounded amount**
(`κ = ‖a‖²‖b‖²/det²`, `E2 ≥ ‖e‖²`, `η² ‖a‖² ≥ κ E2`): first index -/
theorem half_cell_rejected_kappa (zero a b e : V2) (i : ℤ) (y tol kappa E2 eta : ℚ)
    (hd : det2 a b ≠ 0) (hk : norm2 a * norm2 b ≤ kappa * det2 a b ^ 2) (he : norm2 e ≤ E2) (hkp : 0 ≤ kappa)
    (heta0 : 0 ≤ eta) (heta2 : eta ≤ 1 / 2) (heta : kappa * E2 ≤ eta ^ 2 * norm2 a)
    (hfar : tol ^ 2 * max 1 (|(i : ℚ) + 1 / 2| + eta) ≤ (1 / 2 - eta) ^ 2 * norm2 a) :
    isMatched a b tol
      ((getIndices zero a b (vadd (calcCoord zero a b ((i : ℚ) + 1 / 2, y)) e)).getD (0, 0)) = false := by
  have s1 := (index_shift_sq_le_kappa a b e kappa hd hk).trans (mul_le_mul_of_nonneg_left he hkp)
  -- `shift² ‖a‖² ≤ κ E2 ≤ η² ‖a‖²`: cancel `‖a‖² > 0` and take roots
  have habs : |det2 e b / det2 a b| ≤ eta :=
    abs_le_of_sq_le_sq (le_of_mul_le_mul_right (s1.trans heta) (norm2_pos_of_det a b hd).1) heta0
  apply half_cell_rejected zero a b e i y tol eta hd habs heta2
  have hr := rmax_rabs_le ((i : ℚ) + 1 / 2) _ eta habs
  exact (mul_le_mul_of_nonneg_left hr (sq_nonneg tol)).trans hfar

/-- a position within `r` (per coordinate) of the half-cell position `(i + 1/2, y)` of a regular lattice is rejected -/
theorem near_half_cell_rejected (z1 a1 b1 pos : V2) (i : ℤ) (y tol kappa r eta : ℚ)
    (hd1 : det2 a1 b1 ≠ 0) (hk : norm2 a1 * norm2 b1 ≤ kappa * det2 a1 b1 ^ 2) (hkp : 0 ≤ kappa)
    (h1 : |pos.1 - (calcCoord z1 a1 b1 ((i : ℚ) + 1 / 2, y)).1| ≤ r)
    (h2 : |pos.2 - (calcCoord z1 a1 b1 ((i : ℚ) + 1 / 2, y)).2| ≤ r)
    (heta0 : 0 ≤ eta) (heta2 : eta ≤ 1 / 2) (heta : 2 * kappa * r ^ 2 ≤ eta ^ 2 * norm2 a1)
    (hfar : tol ^ 2 * max 1 (|(i : ℚ) + 1 / 2| + eta) ≤ (1 / 2 - eta) ^ 2 * norm2 a1) :
    isMatched a1 b1 tol ((getIndices z1 a1 b1 pos).getD (0, 0)) = false := by
  obtain ⟨e, rfl, hE⟩ := exists_displacement pos _ r h1 h2
  exact half_cell_rejected_kappa z1 a1 b1 e i y tol kappa (2 * r ^ 2) eta hd1 hk hE hkp heta0 heta2
    (by linarith only [heta]) hfar

/-- **Noise-free lattice peaks are recovered exactly from any start that works at all.**
True lattice `(z, a, b)`; `node p = some (i, j)` marks the peaks lying exactly on node `(i, j)`; every other
strong peak is one the true lattice rejects (e.g. a half-cell outlier, `half_cell_rejected`); the start
`(z0, a0, b0)` is arbitrary except that whatever strong peak round one selects is a node peak with its
true indices (`inlier_matched` gives the geometric condition), at least `min_match` of them, of rank 3.
Then the fast match is valid, returns **exactly** the true lattice, selects **exactly** the strong
node peaks (weak peaks and outliers are rejected, node peaks missed by round one are recovered by
round two) and assigns their true indices.  Rank 3 of the final selection follows from rank 3 of
round one (`det_mono_sublist`). -/
theorem fastmatch_exact_recovery (peaks : List Peak) (z a b z0 a0 b0 : V2) (tol mw : ℚ) (mm : ℤ)
    (node : Peak → Option (ℤ × ℤ))
    (hd : det2 a b ≠ 0) (hd0 : det2 a0 b0 ≠ 0) (htol : 0 < tol) (hmw : 0 ≤ mw)
    (hnode : ∀ p ∈ peaks, ∀ i j, node p = some (i, j) → p.pos = calcCoord z a b ((i : ℚ), (j : ℚ)))
    (hout : ∀ p ∈ peaks, node p = none → mw ≤ p.elev → isMatched a b tol (ix z a b p) = false)
    (h1 : ∀ p ∈ peaks, mw ≤ p.elev → isMatched a0 b0 tol (ix z0 a0 b0 p) = true →
      node p = some (rix z0 a0 b0 p))
    (hcount : mm ≤ ((peaks.filter (selBy (fun p => Gen.fm_weight_ok p.elev mw) z0 a0 b0 tol)).length : ℤ))
    (hrank : (normalOf ((peaks.filter (selBy (fun p => Gen.fm_weight_ok p.elev mw) z0 a0 b0 tol)).map
      fun p => ⟨((rix z0 a0 b0 p).1 : ℚ), ((rix z0 a0 b0 p).2 : ℚ), p.elev, 0⟩)).det ≠ 0) :
    fastmatch peaks z0 a0 b0 tol mw mm
      = .valid z a b (peaks.map fun p => Gen.fm_weight_ok p.elev mw && (node p).isSome)
          ((peaks.filter fun p => Gen.fm_weight_ok p.elev mw && (node p).isSome).map
            fun p => (node p).getD (0, 0)) := by
  obtain ⟨hfit1, hmap2, hfil2, hidx2, hfit2, _⟩ :=
    exact_stages peaks z a b z0 a0 b0 tol mw node hd htol hmw hnode hout h1 hrank
  have hen := (fm_enough_iff _ mm).mpr hcount
  unfold fastmatch
  dsimp only
  rw [matchAll_eq peaks (fun p => Gen.fm_weight_ok p.elev mw) z0 a0 b0 tol hd0]
  simp only [List.length_map, hen, Bool.not_true, Bool.false_eq_true, if_false, hfit1]
  rw [matchAll_eq peaks (fun p => Gen.fm_weight_ok p.elev mw) z a b tol hd, hmap2, hfil2, hidx2]
  simp only [hfit2]

/-- **from the exact start**: every strong node peak is selected, every other peak rejected, the true
lattice is returned (the hypothesis on round one is discharged by `on_node`) -/
theorem fastmatch_noise_free (peaks : List Peak) (z a b : V2) (tol mw : ℚ) (mm : ℤ)
    (node : Peak → Option (ℤ × ℤ))
    (hd : det2 a b ≠ 0) (htol : 0 < tol) (hmw : 0 ≤ mw)
    (hnode : ∀ p ∈ peaks, ∀ i j, node p = some (i, j) → p.pos = calcCoord z a b ((i : ℚ), (j : ℚ)))
    (hout : ∀ p ∈ peaks, node p = none → mw ≤ p.elev → isMatched a b tol (ix z a b p) = false)
    (hcount : mm ≤ ((peaks.filter (selBy (fun p => Gen.fm_weight_ok p.elev mw) z a b tol)).length : ℤ))
    (hrank : (normalOf ((peaks.filter (selBy (fun p => Gen.fm_weight_ok p.elev mw) z a b tol)).map
      fun p => ⟨((rix z a b p).1 : ℚ), ((rix z a b p).2 : ℚ), p.elev, 0⟩)).det ≠ 0) :
    fastmatch peaks z a b tol mw mm
      = .valid z a b (peaks.map fun p => Gen.fm_weight_ok p.elev mw && (node p).isSome)
          ((peaks.filter fun p => Gen.fm_weight_ok p.elev mw && (node p).isSome).map
            fun p => (node p).getD (0, 0)) := by
  apply fastmatch_exact_recovery peaks z a b z a b tol mw mm node hd hd htol hmw hnode hout _ hcount hrank
  intro p hp hw hm
  cases hn : node p with
  | none =>
    rw [hout p hp hn hw] at hm
    cases hm
  | some ij =>
    obtain ⟨i, j⟩ := ij
    obtain ⟨-, hr⟩ := on_node z a b tol htol hd p i j (hnode p hp i j hn)
    rw [hr]

/-- non-vacuity, run through the model: five strong node peaks of a 10 px square lattice, one weak node
peak, one half-cell outlier; the start is off by (1/2, -1/2) px in the zero point and ±1/5 px in the
vectors.  The result is the exact lattice, the strong node peaks, their true indices. -/
example :
    fastmatch [⟨(0, 0), 1⟩, ⟨(10, 0), 2⟩, ⟨(5, 5), 3⟩, ⟨(0, 10), 1⟩, ⟨(20, 20), 0⟩, ⟨(10, 10), 1⟩, ⟨(20, 10), 2⟩]
      (1 / 2, -1 / 2) (10 + 1 / 5, 0) (0, 10 - 1 / 5) 3 (1 / 10) 3
    = .valid (0, 0) (10, 0) (0, 10) [true, true, false, true, false, true, true]
        [(0, 0), (1, 0), (0, 1), (1, 1), (2, 1)] := by
  decide +kernel

/-! ### noisy peaks: both rounds

Round two runs against the weighted fit of round one.  `C06.noise_propagation` bounds how far that fit
is from the truth at any node in terms of the design of the round-one selection; together with the
one-round window for an arbitrary regular lattice this gives the two-round statement below.
-/

/-- what `noisy_inliers_kept` and `noisy_selection` share: the first fit and how far it is from the truth -/
theorem noisy_first_fit (peaks : List Peak) (z a b z0 a0 b0 z2 a2 b2 : V2) (tol mw eps : ℚ) (mm : ℤ)
    (m : List Bool) (idx : List (ℤ × ℤ)) (node : Peak → Option (ℤ × ℤ)) (hmw : 0 ≤ mw)
    (hnoise : ∀ p ∈ peaks, ∀ i j, node p = some (i, j) →
      |p.pos.1 - (calcCoord z a b ((i : ℚ), (j : ℚ))).1| ≤ eps ∧
      |p.pos.2 - (calcCoord z a b ((i : ℚ), (j : ℚ))).2| ≤ eps)
    (h1 : ∀ p ∈ peaks, mw ≤ p.elev → isMatched a0 b0 tol (ix z0 a0 b0 p) = true →
      node p = some (rix z0 a0 b0 p))
    (hvalid : fastmatch peaks z0 a0 b0 tol mw mm = .valid z2 a2 b2 m idx)
    (N : Normal) (hN : N = normalOf (designOf (peaks.filter (selBy (fun p => Gen.fm_weight_ok p.elev mw) z0 a0 b0 tol))
      (rix z0 a0 b0))) :
    ∃ z1 a1 b1 : V2, det2 a1 b1 ≠ 0 ∧
      m = peaks.map (selBy (fun p => Gen.fm_weight_ok p.elev mw) z1 a1 b1 tol) ∧
      idx = (peaks.filter (selBy (fun p => Gen.fm_weight_ok p.elev mw) z1 a1 b1 tol)).map (rix z1 a1 b1) ∧
      0 < N.det ∧
      ∀ i j : ℚ,
        N.det * ((calcCoord z1 a1 b1 (i, j)).1 - (calcCoord z a b (i, j)).1) ^ 2 ≤ N.adjq 1 i j * (eps ^ 2 * N.s1) ∧
        N.det * ((calcCoord z1 a1 b1 (i, j)).2 - (calcCoord z a b (i, j)).2) ^ 2 ≤ N.adjq 1 i j * (eps ^ 2 * N.s1) := by
  obtain ⟨z1, a1, b1, _, hfit, hd1, hm, hidx, _⟩ :=
    fastmatch_valid_form peaks z0 a0 b0 tol mw mm z2 a2 b2 m idx hvalid
  -- `hmem p hp : p ∈ peaks ∧ mw ≤ p.elev ∧ node p = some (rix z0 a0 b0 p)`
  have hmem := selected_on_nodes peaks z0 a0 b0 tol mw node h1
  have hw := fun p hp => hmw.trans (hmem p hp).2.1
  have hn := fun p hp => hnoise p (hmem p hp).1 (rix z0 a0 b0 p).1 (rix z0 a0 b0 p).2 (hmem p hp).2.2
  subst hN
  rw [weightedOptimize_eq_some_iff, obsFor_eq, obsFor_eq] at hfit
  simp only [calcCoord_fst, calcCoord_snd] at hn ⊢
  -- `C06.noise_propagation` in both coordinates: the division-free form of `|d| ≤ ε sqrt(Σw · vᵀN⁻¹v)`, `v = (1, i, j)`
  refine ⟨z1, a1, b1, hd1, hm, hidx, ?_, fun i j =>
    ⟨fit_error_coord (·.1) hfit.1 hw (fun p hp => (hn p hp).1) i j,
      fit_error_coord (·.2) hfit.2 hw (fun p hp => (hn p hp).2) i j⟩⟩
  -- rank 3 because the fit exists; the determinant of a design with non-negative weights is never negative
  have hne := ((solveNormal_eq_some_iff ..).mp hfit.1).1
  rw [normalOf_design] at hne
  exact lt_of_le_of_ne (det_nonneg _ (designOf_nonneg _ _ hw)) (Ne.symm hne)

/-- `D (f - t)² ≤ R ≤ D d²` is how `noisy_first_fit` bounds the error `f - t` of the fit by `d` without dividing by `D` -/
theorem near_fitted {u t f D R d eps : ℚ} (hD : 0 < D) (hd : 0 ≤ d) (hf : D * (f - t) ^ 2 ≤ R) (hR : R ≤ D * d ^ 2)
    (hu : |u - t| ≤ eps) : |u - f| ≤ eps + d := by
  have hft : |t - f| ≤ d := by
    rw [abs_sub_comm]
    exact abs_le_of_sq_le_sq (le_of_mul_le_mul_left (hf.trans hR) hD) hd
  exact (abs_sub_le u t f).trans (add_le_add hu hft)

/-- **Noisy inliers are kept by the second round, with their true indices.**
Node peaks lie within `ε` (per coordinate) of their nodes of the true lattice `(z, a, b)`; round one, from
any start, selects only node peaks with their true indices; the match is valid.  Then there is a first fit
`(z1, a1, b1)` such that
* the reported selector / indices are exactly the selection of round two against `(z1, a1, b1)`;
* at every node `(i, j)` the fit deviates from the truth, in each coordinate, by `d` with
  `det N · d² ≤ vᵀ adj(N) v · ε² Σw` (`N` = design of the round-one selection);
* every strong node peak whose node error bound `d` and the conditioning `κ` of the fitted lattice satisfy
  `4κ (ε + d)² < tol²` and `8κ (ε + d)² < min(‖a1‖², ‖b1‖²)` **is selected and gets its true indices**. -/
theorem noisy_inliers_kept (peaks : List Peak) (z a b z0 a0 b0 z2 a2 b2 : V2) (tol mw eps : ℚ) (mm : ℤ)
    (m : List Bool) (idx : List (ℤ × ℤ)) (node : Peak → Option (ℤ × ℤ))
    (htol : 0 < tol) (hmw : 0 ≤ mw)
    (hnoise : ∀ p ∈ peaks, ∀ i j, node p = some (i, j) →
      |p.pos.1 - (calcCoord z a b ((i : ℚ), (j : ℚ))).1| ≤ eps ∧
      |p.pos.2 - (calcCoord z a b ((i : ℚ), (j : ℚ))).2| ≤ eps)
    (h1 : ∀ p ∈ peaks, mw ≤ p.elev → isMatched a0 b0 tol (ix z0 a0 b0 p) = true →
      node p = some (rix z0 a0 b0 p))
    (hvalid : fastmatch peaks z0 a0 b0 tol mw mm = .valid z2 a2 b2 m idx) :
    ∃ z1 a1 b1 : V2, det2 a1 b1 ≠ 0 ∧
      m = peaks.map (selBy (fun p => Gen.fm_weight_ok p.elev mw) z1 a1 b1 tol) ∧
      idx = (peaks.filter (selBy (fun p => Gen.fm_weight_ok p.elev mw) z1 a1 b1 tol)).map (rix z1 a1 b1) ∧
      (∀ i j : ℚ,
        (normalOf (designOf (peaks.filter (selBy (fun p => Gen.fm_weight_ok p.elev mw) z0 a0 b0 tol)) (rix z0 a0 b0))).det
            * ((calcCoord z1 a1 b1 (i, j)).1 - (calcCoord z a b (i, j)).1) ^ 2
          ≤ (normalOf (designOf (peaks.filter (selBy (fun p => Gen.fm_weight_ok p.elev mw) z0 a0 b0 tol)) (rix z0 a0 b0))).adjq 1 i j
            * (eps ^ 2 * (normalOf (designOf (peaks.filter (selBy (fun p => Gen.fm_weight_ok p.elev mw) z0 a0 b0 tol)) (rix z0 a0 b0))).s1) ∧
        (normalOf (designOf (peaks.filter (selBy (fun p => Gen.fm_weight_ok p.elev mw) z0 a0 b0 tol)) (rix z0 a0 b0))).det
            * ((calcCoord z1 a1 b1 (i, j)).2 - (calcCoord z a b (i, j)).2) ^ 2
          ≤ (normalOf (designOf (peaks.filter (selBy (fun p => Gen.fm_weight_ok p.elev mw) z0 a0 b0 tol)) (rix z0 a0 b0))).adjq 1 i j
            * (eps ^ 2 * (normalOf (designOf (peaks.filter (selBy (fun p => Gen.fm_weight_ok p.elev mw) z0 a0 b0 tol)) (rix z0 a0 b0))).s1)) ∧
      (∀ p ∈ peaks, ∀ (i j : ℤ) (kappa d : ℚ), node p = some (i, j) → mw ≤ p.elev → 0 ≤ kappa → 0 ≤ d →
        norm2 a1 * norm2 b1 ≤ kappa * det2 a1 b1 ^ 2 →
        (normalOf (designOf (peaks.filter (selBy (fun p => Gen.fm_weight_ok p.elev mw) z0 a0 b0 tol)) (rix z0 a0 b0))).adjq 1 i j
            * (eps ^ 2 * (normalOf (designOf (peaks.filter (selBy (fun p => Gen.fm_weight_ok p.elev mw) z0 a0 b0 tol)) (rix z0 a0 b0))).s1)
          ≤ (normalOf (designOf (peaks.filter (selBy (fun p => Gen.fm_weight_ok p.elev mw) z0 a0 b0 tol)) (rix z0 a0 b0))).det * d ^ 2 →
        4 * kappa * (eps + d) ^ 2 < tol ^ 2 → 8 * kappa * (eps + d) ^ 2 < norm2 a1 → 8 * kappa * (eps + d) ^ 2 < norm2 b1 →
        selBy (fun p => Gen.fm_weight_ok p.elev mw) z1 a1 b1 tol p = true ∧ rix z1 a1 b1 p = (i, j)) := by
  obtain ⟨z1, a1, b1, hd1, hm, hidx, hdet, herr⟩ :=
    noisy_first_fit peaks z a b z0 a0 b0 z2 a2 b2 tol mw eps mm m idx node hmw hnoise h1 hvalid _ rfl
  refine ⟨z1, a1, b1, hd1, hm, hidx, herr, ?_⟩
  intro p hp i j kappa d hn hw hkp hd hk hbound ht ha hb
  obtain ⟨hn1, hn2⟩ := hnoise p hp i j hn
  have k := near_node_kept z1 a1 b1 p.pos i j tol kappa (eps + d) htol hd1 hk hkp
    (near_fitted hdet hd (herr i j).1 hbound hn1)
    (near_fitted hdet hd (herr i j).2 hbound hn2) ht ha hb
  exact ⟨(selBy_iff _ z1 a1 b1 tol p).mpr ⟨(fm_weight_ok_iff _ _).mpr hw, k.1⟩, k.2⟩

/-- non-vacuity of `noisy_inliers_kept`, evaluated in the kernel: five node peaks of a 10 px square lattice
with ±1/10 px noise (weights 1, 2, 1, 1, 1), tolerance 1 px.  The match is valid, the first fit is
`(0, -1/20), (201/20, -1/40), (-1/20, 1213/120)`; the design has `det N = 24`, and for the node (2, 1)
`vᵀ adj(N) v · ε² Σw = 1.02 ≤ 24 · (1/4)²`, so `d = 1/4`; the fitted lattice has `κ ≤ 101/100`, and
`4κ(ε + d)² = 0.495 < tol²`, `8κ(ε + d)² = 0.99 < ‖a1‖²`: every numeric hypothesis of the last clause holds. -/
example :
    let peaks : List Peak := [⟨(1 / 10, 0), 1⟩, ⟨(10, -1 / 10), 2⟩, ⟨(-1 / 10, 10), 1⟩, ⟨(10, 10 + 1 / 10), 1⟩,
      ⟨(20 + 1 / 10, 10), 1⟩]
    let W : Peak → Bool := fun p => Gen.fm_weight_ok p.elev (1 / 10)
    let N := normalOf (designOf (peaks.filter (selBy W (0, 0) (10, 0) (0, 10) 1)) (rix (0, 0) (10, 0) (0, 10)))
    fastmatch peaks (0, 0) (10, 0) (0, 10) 1 (1 / 10) 3
        = .valid (0, -1 / 20) (201 / 20, -1 / 40) (-1 / 20, 1213 / 120) [true, true, true, true, true]
            [(0, 0), (1, 0), (0, 1), (1, 1), (2, 1)] ∧
    (∀ p ∈ peaks,
      |p.pos.1 - (calcCoord (0, 0) (10, 0) (0, 10) (((rix (0, 0) (10, 0) (0, 10) p).1 : ℚ), ((rix (0, 0) (10, 0) (0, 10) p).2 : ℚ))).1| ≤ 1 / 10 ∧
      |p.pos.2 - (calcCoord (0, 0) (10, 0) (0, 10) (((rix (0, 0) (10, 0) (0, 10) p).1 : ℚ), ((rix (0, 0) (10, 0) (0, 10) p).2 : ℚ))).2| ≤ 1 / 10) ∧
    N.det = 24 ∧ N.adjq 1 2 1 * ((1 / 10) ^ 2 * N.s1) ≤ N.det * (1 / 4) ^ 2 ∧
    norm2 (201 / 20, -1 / 40) * norm2 (-1 / 20, 1213 / 120)
      ≤ 101 / 100 * det2 (201 / 20, -1 / 40) (-1 / 20, 1213 / 120) ^ 2 ∧
    4 * (101 / 100 : ℚ) * (1 / 10 + 1 / 4) ^ 2 < 1 ^ 2 ∧
    8 * (101 / 100 : ℚ) * (1 / 10 + 1 / 4) ^ 2 < norm2 (201 / 20, -1 / 40) ∧
    8 * (101 / 100 : ℚ) * (1 / 10 + 1 / 4) ^ 2 < norm2 (-1 / 20, 1213 / 120) := by
  decide +kernel

/-- **Noisy peaks, both rounds: which peaks the final selection contains.**  Setting of `noisy_inliers_kept`
(node peaks within `ε` per coordinate of their nodes, round one selects only node peaks with their true indices,
the match is valid).  With the first fit `(z1, a1, b1)`, its conditioning `κ`, and for each position a bound `d` on
the fit error there (`vᵀ adj(N) v ε² Σw ≤ det N · d²`, `C06.noise_propagation`):
* a strong node peak with `4κ(ε+d)² < tol²`, `8κ(ε+d)² < min(‖a1‖², ‖b1‖²)` **is selected** with its true indices;
* a peak within `ε` of a position half a cell off along `a` (`(i + 1/2, y)`, any `y`) with
  `2κ(ε+d)² ≤ η²‖a1‖²`, `η ≤ 1/2`, `tol² max(1, |i + 1/2| + η) ≤ (1/2 - η)²‖a1‖²` **is not selected**; likewise along `b`;
* weak peaks are never selected (`valid_invariants`).
When every peak falls in one of these classes the selection is exactly the set of strong inliers. -/
theorem noisy_selection (peaks : List Peak) (z a b z0 a0 b0 z2 a2 b2 : V2) (tol mw eps : ℚ) (mm : ℤ)
    (m : List Bool) (idx : List (ℤ × ℤ)) (node : Peak → Option (ℤ × ℤ))
    (htol : 0 < tol) (hmw : 0 ≤ mw)
    (hnoise : ∀ p ∈ peaks, ∀ i j, node p = some (i, j) →
      |p.pos.1 - (calcCoord z a b ((i : ℚ), (j : ℚ))).1| ≤ eps ∧
      |p.pos.2 - (calcCoord z a b ((i : ℚ), (j : ℚ))).2| ≤ eps)
    (h1 : ∀ p ∈ peaks, mw ≤ p.elev → isMatched a0 b0 tol (ix z0 a0 b0 p) = true →
      node p = some (rix z0 a0 b0 p))
    (hvalid : fastmatch peaks z0 a0 b0 tol mw mm = .valid z2 a2 b2 m idx) :
    ∃ z1 a1 b1 : V2, det2 a1 b1 ≠ 0 ∧
      m = peaks.map (selBy (fun p => Gen.fm_weight_ok p.elev mw) z1 a1 b1 tol) ∧
      (∀ p ∈ peaks, ∀ (i j : ℤ) (kappa d : ℚ), node p = some (i, j) → mw ≤ p.elev → 0 ≤ kappa → 0 ≤ d →
        norm2 a1 * norm2 b1 ≤ kappa * det2 a1 b1 ^ 2 →
        (normalOf (designOf (peaks.filter (selBy (fun p => Gen.fm_weight_ok p.elev mw) z0 a0 b0 tol)) (rix z0 a0 b0))).adjq 1 i j * (eps ^ 2 * (normalOf (designOf (peaks.filter (selBy (fun p => Gen.fm_weight_ok p.elev mw) z0 a0 b0 tol)) (rix z0 a0 b0))).s1) ≤ (normalOf (designOf (peaks.filter (selBy (fun p => Gen.fm_weight_ok p.elev mw) z0 a0 b0 tol)) (rix z0 a0 b0))).det * d ^ 2 →
        4 * kappa * (eps + d) ^ 2 < tol ^ 2 → 8 * kappa * (eps + d) ^ 2 < norm2 a1 → 8 * kappa * (eps + d) ^ 2 < norm2 b1 →
        selBy (fun p => Gen.fm_weight_ok p.elev mw) z1 a1 b1 tol p = true ∧ rix z1 a1 b1 p = (i, j)) ∧
      (∀ p ∈ peaks, ∀ (i : ℤ) (y kappa d eta : ℚ),
        |p.pos.1 - (calcCoord z a b ((i : ℚ) + 1 / 2, y)).1| ≤ eps → |p.pos.2 - (calcCoord z a b ((i : ℚ) + 1 / 2, y)).2| ≤ eps →
        0 ≤ kappa → 0 ≤ d → norm2 a1 * norm2 b1 ≤ kappa * det2 a1 b1 ^ 2 →
        (normalOf (designOf (peaks.filter (selBy (fun p => Gen.fm_weight_ok p.elev mw) z0 a0 b0 tol)) (rix z0 a0 b0))).adjq 1 ((i : ℚ) + 1 / 2) y * (eps ^ 2 * (normalOf (designOf (peaks.filter (selBy (fun p => Gen.fm_weight_ok p.elev mw) z0 a0 b0 tol)) (rix z0 a0 b0))).s1) ≤ (normalOf (designOf (peaks.filter (selBy (fun p => Gen.fm_weight_ok p.elev mw) z0 a0 b0 tol)) (rix z0 a0 b0))).det * d ^ 2 →
        0 ≤ eta → eta ≤ 1 / 2 → 2 * kappa * (eps + d) ^ 2 ≤ eta ^ 2 * norm2 a1 →
        tol ^ 2 * max 1 (|(i : ℚ) + 1 / 2| + eta) ≤ (1 / 2 - eta) ^ 2 * norm2 a1 →
        selBy (fun p => Gen.fm_weight_ok p.elev mw) z1 a1 b1 tol p = false) ∧
      (∀ p ∈ peaks, ∀ (j : ℤ) (x kappa d eta : ℚ),
        |p.pos.1 - (calcCoord z a b (x, (j : ℚ) + 1 / 2)).1| ≤ eps → |p.pos.2 - (calcCoord z a b (x, (j : ℚ) + 1 / 2)).2| ≤ eps →
        0 ≤ kappa → 0 ≤ d → norm2 a1 * norm2 b1 ≤ kappa * det2 a1 b1 ^ 2 →
        (normalOf (designOf (peaks.filter (selBy (fun p => Gen.fm_weight_ok p.elev mw) z0 a0 b0 tol)) (rix z0 a0 b0))).adjq 1 x ((j : ℚ) + 1 / 2) * (eps ^ 2 * (normalOf (designOf (peaks.filter (selBy (fun p => Gen.fm_weight_ok p.elev mw) z0 a0 b0 tol)) (rix z0 a0 b0))).s1) ≤ (normalOf (designOf (peaks.filter (selBy (fun p => Gen.fm_weight_ok p.elev mw) z0 a0 b0 tol)) (rix z0 a0 b0))).det * d ^ 2 →
        0 ≤ eta → eta ≤ 1 / 2 → 2 * kappa * (eps + d) ^ 2 ≤ eta ^ 2 * norm2 b1 →
        tol ^ 2 * max 1 (|(j : ℚ) + 1 / 2| + eta) ≤ (1 / 2 - eta) ^ 2 * norm2 b1 →
        selBy (fun p => Gen.fm_weight_ok p.elev mw) z1 a1 b1 tol p = false) := by
  obtain ⟨z1, a1, b1, hd1, hm, _, hdet, herr⟩ :=
    noisy_first_fit peaks z a b z0 a0 b0 z2 a2 b2 tol mw eps mm m idx node hmw hnoise h1 hvalid _ rfl
  have hrej : ∀ p : Peak, isMatched a1 b1 tol ((getIndices z1 a1 b1 p.pos).getD (0, 0)) = false →
      selBy (fun p => Gen.fm_weight_ok p.elev mw) z1 a1 b1 tol p = false := fun p h => by
    unfold selBy ix
    rw [h, Bool.and_false]
  refine ⟨z1, a1, b1, hd1, hm, ?_, ?_, ?_⟩
  · intro p hp i j kappa d hn hw hkp hd hk hbound ht ha hb
    obtain ⟨hn1, hn2⟩ := hnoise p hp i j hn
    have k := near_node_kept z1 a1 b1 p.pos i j tol kappa (eps + d) htol hd1 hk hkp
      (near_fitted hdet hd (herr i j).1 hbound hn1)
      (near_fitted hdet hd (herr i j).2 hbound hn2) ht ha hb
    exact ⟨(selBy_iff _ z1 a1 b1 tol p).mpr ⟨(fm_weight_ok_iff _ _).mpr hw, k.1⟩, k.2⟩
  · intro p _ i y kappa d eta hn1 hn2 hkp hd hk hbound he0 he2 heta hfar
    exact hrej p (near_half_cell_rejected z1 a1 b1 p.pos i y tol kappa (eps + d) eta hd1 hk hkp
      (near_fitted hdet hd (herr _ y).1 hbound hn1)
      (near_fitted hdet hd (herr _ y).2 hbound hn2) he0 he2 heta hfar)
  · intro p _ j x kappa d eta hn1 hn2 hkp hd hk hbound he0 he2 heta hfar
    have hf1 := near_fitted hdet hd (herr x _).1 hbound hn1
    have hf2 := near_fitted hdet hd (herr x _).2 hbound hn2
    -- the same with `a1` and `b1` exchanged, which exchanges the two indices
    rw [← calcCoord_swap] at hf1 hf2
    refine hrej p ?_
    rw [← isMatched_indices_swap]
    exact near_half_cell_rejected z1 b1 a1 p.pos j x tol kappa (eps + d) eta (regular_swap hd1 hk).1
      (regular_swap hd1 hk).2 hkp hf1 hf2 he0 he2 heta hfar

end C05
