import BlobfinderModel.Properties.C18
import BlobfinderModel.Model.Patterns
/-!
# C16 — pattern masks are centred, symmetric, bounded and balanced at every size
-/
namespace C16
open Model

theorem fdiv_two (n : ℤ) : Int.fdiv n 2 = n / 2 := Int.fdiv_eq_ediv_of_nonneg n (by decide)

/-- the built-in masks are centred on pixel `shape // 2` on both axes -/
theorem mask_center_floor (n : ℤ) : Gen.mask_center n = n / 2 := by
  unfold Gen.mask_center; exact fdiv_two n

/-- `before = |target // 2 - source // 2|` (spelled with `if` by the translator) is `long // 2 - short // 2`, whichever of
the two lengths is the longer one, and `after = extra - before` -/
theorem ut_before_after_of_le {a b : ℤ} (h : a ≤ b) (extra : ℤ) :
    Gen.ut_before_after b a extra = (b / 2 - a / 2, extra - (b / 2 - a / 2)) ∧
    Gen.ut_before_after a b extra = (b / 2 - a / 2, extra - (b / 2 - a / 2)) := by
  have h2 : 0 ≤ b / 2 - a / 2 := by omega
  have e (x : ℤ) : (if x < 0 then -x else x) = |x| := by
    split_ifs with hx
    · exact (abs_of_neg hx).symm
    · exact (abs_of_nonneg (not_lt.mp hx)).symm
  simp only [Gen.ut_before_after, fdiv_two, e, abs_sub_comm (a / 2), abs_of_nonneg h2, and_self]

/-- `np.pad` (`source < target`): indices shift by `source // 2 - target // 2`, zero fill outside the source -/
theorem utIndex_pad (target source i : ℤ) (h : source < target) :
    utIndex target source i =
      if 0 ≤ i + (source / 2 - target / 2) ∧ i + (source / 2 - target / 2) < source
      then some (i + (source / 2 - target / 2)) else none := by
  simp only [utIndex, Gen.ut_is_pad, gt_iff_lt, h, decide_true, if_true, (ut_before_after_of_le h.le _).1,
    sub_eq_add_neg i, neg_sub]

/-- `skimage.util.crop` and the identity (`target ≤ source`): the same shift -/
theorem utIndex_crop (target source i : ℤ) (h : target ≤ source) :
    utIndex target source i = some (i + (source / 2 - target / 2)) := by
  simp only [utIndex, Gen.ut_is_pad, Gen.ut_is_crop, gt_iff_lt, not_lt.mpr h, decide_false, Bool.false_eq_true, if_false,
    (ut_before_after_of_le h _).2, decide_eq_true_eq]
  split_ifs with hc
  · rfl
  · -- `target = source`: no shift
    rw [le_antisymm h (not_lt.mp hc), sub_self, add_zero]

/-- **User templates: `source // 2` is mapped onto `target // 2` for all parity combinations**
(repair of D5), for every source and target length ≥ 1. -/
theorem ut_center_maps (target source : ℤ) (ht : 1 ≤ target) (hs : 1 ≤ source) :
    utIndex target source (target / 2) = some (source / 2) := by
  rcases lt_or_ge source target with h | h
  · rw [utIndex_pad _ _ _ h, add_sub_cancel, if_pos (by omega)]
  · rw [utIndex_crop _ _ _ h, add_sub_cancel]

/-- pad / crop widths are non-negative and produce exactly the requested length -/
theorem ut_shape (target source : ℤ) (ht : 1 ≤ target) (hs : 1 ≤ source) :
    0 ≤ (utWidths target source).1 ∧ 0 ≤ (utWidths target source).2 ∧
    utLength target source = target := by
  unfold utWidths utLength Gen.ut_is_pad Gen.ut_is_crop Gen.ut_extra_pad Gen.ut_extra_crop
  simp only [decide_eq_true_eq]
  split_ifs with hp hc
  · rw [(ut_before_after_of_le hp.le _).1]
    omega
  · rw [(ut_before_after_of_le hc.le _).2]
    omega
  · omega

/-- **values are preserved on the overlap**: the map target index → source index is a pure shift
by `source // 2 - target // 2`, stays inside the source, and padding is zero exactly outside it. -/
theorem ut_values_preserved (target source i : ℤ) (ht : 1 ≤ target) (hs : 1 ≤ source)
    (hi : 0 ≤ i ∧ i < target) :
    let j := i + (source / 2 - target / 2)
    utIndex target source i = if 0 ≤ j ∧ j < source then some j else none := by
  intro j
  rcases lt_or_ge source target with h | h
  · exact utIndex_pad _ _ _ h
  · rw [utIndex_crop _ _ _ h, if_pos (by omega)]

/-- Defect D5 (pre-repair: `before = extra // 2`): 5 → 8 pad puts the centre on 3, not 4. -/
theorem ut_prefix_counterexample : (8 - 5) / 2 + 5 / 2 = (3 : ℤ) ∧ (8 : ℤ) / 2 = 4 := by decide

/-- a radially symmetric mask about an integer centre is point-symmetric about it: the mirrored
pixel `2c - p` has the same squared distance -/
theorem radial_point_symmetric (cy cx y x : ℚ) :
    ((2 * cy - y) - cy) ^ 2 + ((2 * cx - x) - cx) ^ 2 = (y - cy) ^ 2 + (x - cx) ^ 2 := by ring

/-- the mirrored pixel of an in-image pixel about `shape // 2` is inside the image again for odd
sizes; for even sizes row / column 0 has no partner (the statement's symmetry is about the
remaining pixels) -/
theorem mirror_in_image (n y : ℤ) (hn : 1 ≤ n) (hy : 0 ≤ y ∧ y < n) (h0 : n % 2 = 1 ∨ 1 ≤ y) :
    0 ≤ 2 * Gen.mask_center n - y ∧ 2 * Gen.mask_center n - y < n := by
  rw [mask_center_floor]; omega

/-- antialiased disk: zero at distance ≥ radius + 1/2 (hence beyond outer radius + 1), values in [0,1] -/
theorem circular_support (radius r : ℚ) (hR : 1 ≤ radius) (c : Bool) (hr : radius + 1 / 2 ≤ r) :
    circularMask radius c r = 0 := by
  have h2 : 1 / 2 ≤ r := by linarith
  unfold circularMask
  rw [C18.not_patched 0 c r h2, if_neg Bool.false_ne_true, C18.binVal_single radius 0 r (by rwa [sub_zero]),
    ramp_edge_eq_one r radius hr, ramp_edge_eq_one r 0 (by rwa [zero_add]), sub_self]

theorem circular_range (radius r : ℚ) (c : Bool) :
    0 ≤ circularMask radius c r ∧ circularMask radius c r ≤ 1 := by
  unfold circularMask
  split
  · unfold Gen.patch_value
    constructor <;> norm_num
  · exact ⟨bin_val_nonneg _ _ _, bin_val_le_one _ _ _⟩

/-- radial gradient: ≤ 1 everywhere, zero beyond radius + 1/2 (for `r > 0`) -/
theorem gradient_le_one (radius r : ℚ) (hR : 0 < radius) (hr : 0 ≤ r) : gradientMask radius r ≤ 1 := by
  unfold gradientMask Gen.rgbs_val
  simp only [Bool.and_eq_true, decide_eq_true_eq]
  -- the branches of the generated `rgbs_val r radius 0 1`, in order: ring `-1`, edge ramp, gradient `r / radius`, `0`
  split_ifs with h1 h2 h3
  · norm_num
  · rw [div_le_one (by norm_num)]
    linarith [h2.1]
  · rw [div_le_one hR]
    linarith
  · norm_num

theorem gradient_support (radius r : ℚ) (hR : 0 < radius) (hr : radius + 1 / 2 ≤ r) :
    gradientMask radius r = 0 := by
  have h1 : 0 < r := by linarith
  have h2 : radius - 1 / 2 ≤ r := by linarith
  unfold gradientMask Gen.rgbs_val
  simp only [Bool.and_eq_true, decide_eq_true_eq]
  -- the first three branches of `rgbs_val` (see `gradient_le_one`) are off
  rw [if_neg fun h => h1.not_ge h.2, if_neg fun h => h.2.not_ge hr, if_neg h2.not_gt]

/-- background subtraction: the combination of disk and ring never exceeds 1 … -/
theorem bs_le_one (m1 m2 s1 s2 : ℚ) (h1 : m1 ≤ 1) (h2 : 0 ≤ m2) (hs1 : 0 ≤ s1) (hs2 : 0 < s2) :
    Gen.bs_combine m1 m2 s1 s2 ≤ 1 := by
  unfold Gen.bs_combine
  have : 0 ≤ m2 * s1 / s2 := div_nonneg (mul_nonneg h2 hs1) hs2.le
  linarith

/-- … **and sums to zero** over any set of pixels when the ring is not empty (`s2 ≠ 0`; the case
`s2 = 0` is the division by zero of known finding D13). -/
theorem bs_sum_zero {ι : Type} (px : List ι) (m1 m2 : ι → ℚ)
    (hs2 : (px.map m2).sum ≠ 0) :
    (px.map fun p => Gen.bs_combine (m1 p) (m2 p) (px.map m1).sum (px.map m2).sum).sum = 0 := by
  have key : ∀ (l : List ι) (s1 s2 : ℚ),
      (l.map fun p => Gen.bs_combine (m1 p) (m2 p) s1 s2).sum
        = (l.map m1).sum - (l.map m2).sum * s1 / s2 := by
    intro l s1 s2
    induction l with
    | nil => simp
    | cons a t ih =>
      simp only [List.map_cons, List.sum_cons, ih]
      unfold Gen.bs_combine; ring
  rw [key, mul_div_cancel_left₀ _ hs2, sub_self]

/-- crop size is `ceil(search)` -/
theorem crop_size_ceil (search : ℚ) :
    search ≤ (Gen.crop_size_of search : ℚ) ∧ (Gen.crop_size_of search : ℚ) < search + 1 := by
  unfold Gen.crop_size_of
  exact ⟨Rat.le_ceil, Rat.ceil_lt⟩

/-- inconsistent radii / search are rejected, consistent ones accepted -/
theorem ctor_guards (radius search outer : ℚ) :
    (Gen.circ_rejects radius search = true ↔ search < radius) ∧
    (Gen.rg_rejects radius search = true ↔ search < radius) ∧
    (Gen.bs_rejects radius search outer = true ↔ (outer ≤ radius ∨ search < outer)) ∧
    (Gen.rgbs_rejects radius search outer = true ↔ (outer ≤ radius ∨ search < outer)) := by
  unfold Gen.circ_rejects Gen.rg_rejects Gen.bs_rejects Gen.rgbs_rejects
  simp only [Bool.or_eq_true, decide_eq_true_eq]
  trivial

/-- the defaults are accepted by the guards (for a positive radius) -/
theorem ctor_defaults_ok (radius : ℚ) (hr : 0 < radius) :
    Gen.circ_rejects radius (Gen.circ_default_search radius) = false ∧
    Gen.bs_rejects radius (Gen.bs_default_search radius (Gen.bs_default_radius_outer radius 0))
      (Gen.bs_default_radius_outer radius 0) = false := by
  unfold Gen.circ_rejects Gen.circ_default_search Gen.bs_rejects Gen.bs_default_search
    Gen.bs_default_radius_outer
  rw [rmax_eq_max]
  simp only [Bool.or_eq_false_iff, decide_eq_false_iff_not, not_le, not_lt]
  exact ⟨by linarith, by linarith, le_max_right _ _⟩

/-- the default radial map of `RadialGradientBackgroundSubtraction` is centred on its own
`shape // 2` pixel (repair of D6) and contains the outer radius with a margin of one pixel -/
theorem rgbs_center_integral (radius outer : ℚ) (hr : 0 ≤ radius) :
    let r := Gen.rgbs_r radius outer
    Gen.rgbs_center r = Gen.mask_center (Gen.rgbs_size r) ∧
    outer + 1 ≤ (Gen.rgbs_center r : ℚ) ∧ radius + 1 ≤ (Gen.rgbs_center r : ℚ) := by
  have hc : max radius outer ≤ (Gen.rgbs_r radius outer : ℚ) := by
    unfold Gen.rgbs_r
    rw [rmax_eq_max]
    exact Rat.le_ceil
  intro r
  unfold Gen.rgbs_center Gen.rgbs_size
  rw [mask_center_floor, Int.cast_add, Int.cast_one]
  exact ⟨by omega, add_le_add_left ((le_max_right _ _).trans hc) 1, add_le_add_left ((le_max_left _ _).trans hc) 1⟩

/-- Defect D6 (pre-repair: centre `r + 1` in an array of `ceil(2r+2)`): for `r = 15/2` the centre
`17/2` is not a pixel. -/
theorem rgbs_prefix_counterexample : ∀ n : ℤ, ((15 : ℚ) / 2 + 1) ≠ (n : ℚ) := by
  intro n h
  -- the left side has denominator 2, an integer has denominator 1
  have hd : ((15 : ℚ) / 2 + 1).den = 2 := by decide +kernel
  rw [h, Rat.den_intCast] at hd
  exact absurd hd (by decide)

end C16
