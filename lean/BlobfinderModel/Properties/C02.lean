import BlobfinderModel.Properties.C04
import BlobfinderModel.Proofs.Upsample
import Mathlib.Analysis.SpecialFunctions.Exp
import Mathlib.Analysis.Complex.Norm
import Mathlib.Analysis.SpecialFunctions.Complex.Circle
/-!
# C02 — sub-pixel accuracy bound for refined positions  (partial: logical core only)

Proved: (1) the objective `|Σ_f C_f e^{2πi f·τ}|` maximised by the upsampled DFT is bounded by
`Σ_f |C_f|` and attains the bound where all phases vanish — for a centro-symmetric mask correlated
with a Fourier-shifted copy of itself that is the true shift; (2) the candidate grid of the
upsampling has spacing `1/us` and spans at least `[−1/2, 1/2 − 1/us]` around the integer maximum for
every `us ≥ 2` (generated constants); (3) the centre-of-mass refinement stays within the clipped
radius (C04).
**Not proved, and not provable with what is here**: the constants 1 px, 0.5 px and
`1/us + 0.03 px` of the statement. They are empirical properties of a float pipeline over a
continuum of rendered inputs; they are decided by the oracle search only.
-/
namespace C02
open Model

/-- modulus of a sum of phasors with non-negative amplitudes is at most the sum of the amplitudes … -/
theorem phasor_sum_le {ι : Type} (s : Finset ι) (ρ θ : ι → ℝ) (hρ : ∀ f ∈ s, 0 ≤ ρ f) :
    ‖∑ f ∈ s, (ρ f : ℂ) * Complex.exp (θ f * Complex.I)‖ ≤ ∑ f ∈ s, ρ f := by
  refine (norm_sum_le _ _).trans_eq (Finset.sum_congr rfl fun f hf => ?_)
  rw [norm_mul, Complex.norm_exp_ofReal_mul_I, mul_one, Complex.norm_real, Real.norm_eq_abs, abs_of_nonneg (hρ f hf)]

/-- … with equality when all phases vanish (the true shift) -/
theorem phasor_sum_max {ι : Type} (s : Finset ι) (ρ : ι → ℝ) (hρ : ∀ f ∈ s, 0 ≤ ρ f) :
    ‖∑ f ∈ s, (ρ f : ℂ) * Complex.exp ((0 : ℝ) * Complex.I)‖ = ∑ f ∈ s, ρ f := by
  simp only [Complex.ofReal_zero, zero_mul, Complex.exp_zero, mul_one]
  rw [← Complex.ofReal_sum, Complex.norm_real, Real.norm_eq_abs, abs_of_nonneg (Finset.sum_nonneg hρ)]

/-- **the candidate grid covers half a pixel on both sides of the integer maximum** with spacing
`1/us`: lowest offset ≤ −1/2, highest offset ≥ 1/2 − 1/us, for every factor ≥ 2 -/
theorem upsample_grid_cover (us : ℤ) (hus : 2 ≤ us) :
    ((0 - Gen.us_dftshift (Gen.us_region us) : ℤ) : ℚ) / (us : ℚ) ≤ -(1 / 2) ∧
    1 / 2 - 1 / (us : ℚ) ≤ ((Gen.us_region us - 1 - Gen.us_dftshift (Gen.us_region us) : ℤ) : ℚ) / (us : ℚ) := by
  have husq : (0 : ℚ) < (us : ℚ) := Int.cast_pos.mpr (by omega)
  have hR := us_region_eq us
  have hD := us_dftshift_eq (Gen.us_region us) (by omega)
  -- `region = ⌈3us/2⌉` (`hR`) and `dftshift = ⌊region/2⌋` (`hD`), so either half of the region holds at least `us/2` cells
  have h : us ≤ 2 * Gen.us_dftshift (Gen.us_region us) ∧
      us ≤ 2 * (Gen.us_region us - Gen.us_dftshift (Gen.us_region us)) := by omega
  have h1 : (us : ℚ) ≤ 2 * (Gen.us_dftshift (Gen.us_region us) : ℚ) := by exact_mod_cast h.1
  have h2 : (us : ℚ) ≤ 2 * ((Gen.us_region us : ℚ) - (Gen.us_dftshift (Gen.us_region us) : ℚ)) := by exact_mod_cast h.2
  -- both inequalities multiplied by `us`
  rw [div_le_iff₀ husq, le_div_iff₀ husq, sub_mul, one_div_mul_cancel husq.ne']
  push_cast
  constructor
  · linear_combination (1 / 2 : ℚ) * h1
  · linear_combination (1 / 2 : ℚ) * h2

theorem upsample_spacing (us k : ℤ) (hus : 1 ≤ us) :
    ((k + 1 - Gen.us_dftshift (Gen.us_region us) : ℤ) : ℚ) / (us : ℚ)
      - ((k - Gen.us_dftshift (Gen.us_region us) : ℤ) : ℚ) / (us : ℚ) = 1 / (us : ℚ) := by
  rw [← sub_div]
  congr 1
  push_cast
  ring

/-- the centre-of-mass refinement cannot move further than the clipped radius (from C04) -/
theorem com_bounded (c r : ℤ) (com : ℚ) (hr : 0 ≤ r ∧ r ≤ 2) (hcom : 0 ≤ com ∧ com ≤ (2 * r + 1 : ℤ) - 1) :
    |Model.refined_coord c com r - (c : ℚ)| ≤ 2 := by
  have := C04.refine_within_r c r com hr hcom
  exact this.1.trans this.2

end C02
