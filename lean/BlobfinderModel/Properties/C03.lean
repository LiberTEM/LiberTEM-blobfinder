import BlobfinderModel.Proofs.Eval
import BlobfinderModel.Proofs.FourierBridge
import BlobfinderModel.Proofs.Rfft
/-!
# C03 — outputs equal their documented definitions on a direct correlation  (partial)

Proved: the evaluation kernels' model (argmax = first maximum, clipped refinement radius and
cut-out in bounds, refined = centre + COM − r, elevation from slopes at distance ≥ r_min) with the
constants `2` and `3/2` *as the source has them now*; the index map of the correlation
(`ifftshift`: the mask is centred on the evaluated pixel for every size parity); the log-scaling
argument `x − min + 1` (per crop in the crop-based method, per frame in the full-frame method).
**Assumed (A-FFT)**: `rfft2` and `irfft2(·, s)` compute what `Fourier.rfft2` / `Fourier.irfft2` define (the column
frequencies `0 … W/2` of the 2-D DFT; the inverse of the Hermitian extension), up to rounding; that
`irfft2(rfft2(mask)·rfft2(data), s)` is then the circular convolution is `corr_is_rfft_route` — the real
maps are compared with the model's exact direct sum by the correspondence.
-/
namespace C03
open Model

/-- height = maximum of the map, centre = first position attaining it -/
theorem argmax_is_first_max (l : List ℚ) (hne : l ≠ []) :
    ∃ hr : argmaxFirst l < l.length,
      (∀ j (hj : j < l.length), l[j] ≤ l[argmaxFirst l]) ∧
      (∀ j (hj : j < l.length), j < argmaxFirst l → l[j] < l[argmaxFirst l]) :=
  argmaxFirst_spec l hne

/-- **C03 at the model level: the reported height is the maximum of the map over the window, the
reported centre is inside the window, attains the maximum, and is the first such position in
row-major order** — for every map and every size. -/
theorem evaluate_center_is_max (corr : ℤ → ℤ → ℚ) (h w : ℤ) (hh : 0 < h) (hw : 0 < w) :
    let e := evaluate corr h w
    (0 ≤ e.cy ∧ e.cy < h) ∧ (0 ≤ e.cx ∧ e.cx < w) ∧ e.height = corr e.cy e.cx ∧
    (∀ y x : ℤ, 0 ≤ y → y < h → 0 ≤ x → x < w → corr y x ≤ e.height) ∧
    (∀ y x : ℤ, 0 ≤ y → y < h → 0 ≤ x → x < w → y * w + x < e.cy * w + e.cx → corr y x < e.height) :=
  have ⟨⟨hcy, hcx, hmax⟩, hfirst⟩ := evaluate_center corr h w hh hw
  ⟨hcy, hcx, rfl, hmax, hfirst⟩

/-- the constants of the evaluation model (hand-written; `evaluate_one_is_generated` below proves the model built with
them equal to the loop body of `evaluate_correlations` as translated from the source, so a change of the radius `2` or of
the default `r_min = 1.5` in the source breaks that theorem) -/
theorem constants :
    Model.refine_radius = 2 ∧ Model.elev_rmin = 3 / 2 ∧
    (∀ dist r : ℚ, Model.elev_in_range dist r = true ↔ r ≤ dist) := by
  refine ⟨rfl, by unfold Model.elev_rmin; norm_num, ?_⟩
  intro dist r
  unfold Model.elev_in_range
  simp

/-- the refinement radius is `min(r, y, x, h−y−1, w−x−1)`: 2 clipped at the window border -/
theorem refine_clip (r y x h w : ℤ) :
    Model.refine_r r y x h w = min r (min y (min x (min (h - y - 1) (w - x - 1)))) := by
  simp only [Model.refine_r, min_assoc]

/-- for a centre inside the map the cut-out `[c−r, c+r]` is a `(2r+1)²` block inside the map
(no out-of-bounds read of the numba kernel), and the guard `r ≤ 0` covers the border case -/
theorem refine_cut_in_bounds (y x h w : ℤ) (hy : 0 ≤ y ∧ y < h) (hx : 0 ≤ x ∧ x < w) :
    let r := Model.refine_r Model.refine_radius y x h w
    0 ≤ r ∧ r ≤ 2 ∧
    (Model.refine_guard r = false →
      0 ≤ Model.cut_lo y r ∧ Model.cut_hi y r ≤ h ∧ 0 ≤ Model.cut_lo x r ∧ Model.cut_hi x r ≤ w ∧
      Model.cut_hi y r - Model.cut_lo y r = 2 * r + 1 ∧ Model.cut_hi x r - Model.cut_lo x r = 2 * r + 1) := by
  intro r
  obtain ⟨h1, h2, h3, h4, h5⟩ := (le_refine_r_iff r Model.refine_radius y x h w).mp le_rfl
  have h0 : 0 ≤ r := (le_refine_r_iff 0 Model.refine_radius y x h w).mpr ⟨by decide, hy.1, hx.1, by omega, by omega⟩
  unfold Model.cut_lo Model.cut_hi
  -- the guard is not needed: the clipped radius keeps the block inside the map whatever its sign
  exact ⟨h0, h1, fun _ => ⟨by omega, by omega, by omega, by omega, by ring, by ring⟩⟩

/-- refined = centre + centre of mass of the cut-out − r (cut-out coordinates start at c − r) -/
theorem refined_formula (c r : ℤ) (com : ℚ) : Model.refined_coord c com r = (c : ℚ) + com - (r : ℚ) := by
  unfold Model.refined_coord; ring

/-- results are re-anchored by `+ peak − crop_size`; `_unshift` is the inverse -/
theorem shift_unshift (v anchor c : ℤ) :
    Gen.shift v anchor c = v + anchor - c ∧ Gen.unshift (Gen.shift v anchor c) anchor c = v := by
  unfold Gen.shift Gen.unshift; omega

/-- log scaling: `log(x − min + 1)`; the crop-based variant subtracts `m = min − 1` per crop,
which is the same argument with the crop's own minimum -/
theorem logscale_def (x m mn : ℚ) :
    Gen.log_arg x m = x - m + 1 ∧ Gen.cropbuf_log_arg x (Gen.cropbuf_m mn) = Gen.log_arg x mn := by
  unfold Gen.log_arg Gen.cropbuf_log_arg Gen.cropbuf_m
  constructor <;> ring

/-- **`Model.refineCenter` is the generated `refine_center` (which calls the generated
`center_of_mass`)**: same clip, same guard, same cut-out, same minimum subtraction, same moments. -/
theorem refine_center_is_generated (corr : ℤ → ℤ → ℚ) (h w cy cx r : ℤ) :
    refineCenter corr h w cy cx r = Gen.refine_center corr h w cy cx r := by
  unfold refineCenter Gen.refine_center Gen.center_of_mass Model.refine_r Model.refine_guard Model.cut_lo Model.cut_hi
    Model.refined_coord
  simp only [decide_eq_true_eq]

/-- a cell of the comprehension in the generated `peak_elevation`, squared, is the model's cell (`s` the distance, `d2` its square,
`a` is `height − corr y x`; `∧ True` is how the translator prints `dist < r_max` with `r_max = inf`) -/
theorem gen_cell {s r d2 a : ℚ} (hr : 0 ≤ r) (hs : 0 ≤ s ∧ s * s = d2) :
    (if s ≥ r ∧ True then some (a / s) else none : Option ℚ).map (· ^ 2)
      = if r * r ≤ d2 then some (a ^ 2 / d2) else none := by
  rw [Option.map_if]
  refine if_congr ?_ (congrArg some ?_) rfl
  · rw [and_true, ge_iff_le, mul_self_le_mul_self_iff hr hs.1, hs.2]
  · rw [div_pow, sq s, hs.2]

/-- **`Model.elevation2` is the square of the generated `peak_elevation`** for any function `sqrt`
that is a square root on the non-negative rationals that occur (`sqrt t ≥ 0`, `sqrt t · sqrt t = t`),
when `height` is an upper bound of the map (it is its maximum).  The model compares squares because
the rationals have no square roots; this theorem is what licenses that. -/
theorem peak_elevation_is_generated (sqrt : ℚ → ℚ) (hs : ∀ t : ℚ, 0 ≤ t → 0 ≤ sqrt t ∧ sqrt t * sqrt t = t)
    (corr : ℤ → ℤ → ℚ) (h w : ℤ) (py px height : ℚ)
    (hmax : ∀ y x : ℤ, 0 ≤ y → y < h → 0 ≤ x → x < w → corr y x ≤ height) :
    (Gen.peak_elevation corr h w sqrt py px height Model.elev_rmin).map (· ^ 2) = elevation2 corr h w py px height := by
  rw [elevation2_eq_minOpt]
  unfold Gen.peak_elevation elevCands
  -- the generated kernel is `optMax0 (minOpt l)`: the slopes in `l` are non-negative, and their squares are the model's candidates
  refine (minOpt_sq _ fun v hv => ?_).trans (congrArg minOpt ?_)
  · simp only [List.mem_flatMap, List.mem_filterMap, mem_irange, Option.ite_none_right_eq_some, Option.some.injEq] at hv
    obtain ⟨y, hy, x, hx, -, rfl⟩ := hv
    exact Rat.div_nonneg (sub_nonneg.mpr (hmax y x hy.1 hy.2 hx.1 hx.2)) (hs _ (by positivity)).1
  · rw [List.map_flatMap]
    refine List.flatMap_congr fun y _ => ?_
    rw [List.map_filterMap]
    exact List.filterMap_congr fun x _ => gen_cell (by norm_num [Model.elev_rmin]) (hs _ (by positivity))

/-- **One iteration of `evaluate_correlations`, as translated from the source on this run, is the
model's `evaluate` followed by the re-anchoring**: centre, refined position and height coincide, and
the squared elevation of the model is the square of the generated elevation (for every `sqrt` that
squares back on the non-negative rationals).  This ties the whole per-peak evaluation — argmax,
`unravel_index` as `(idx / w, idx % w)`, `refine_center(center, 2, corr)`, `corr[center]`, the two
`_shift` calls and `peak_elevation(refined, corr, height)` with its default `r_min` — to the source. -/
theorem evaluate_one_is_generated (sqrt : ℚ → ℚ) (hs : ∀ t : ℚ, 0 ≤ t → 0 ≤ sqrt t ∧ sqrt t * sqrt t = t)
    (corr : ℤ → ℤ → ℚ) (n m : ℕ) (hn : 0 < n) (hm : 0 < m) (p0 p1 c : ℤ) :
    let e := evaluate corr n m
    let g := Gen.evaluate_one corr n m sqrt p0 p1 c
    g.1 = (Gen.shift e.cy p0 c, Gen.shift e.cx p1 c) ∧
    g.2.1 = (e.ry + ((Gen.shift 0 p0 c : ℤ) : ℚ), e.rx + ((Gen.shift 0 p1 c : ℤ) : ℚ)) ∧
    g.2.2.1 = e.height ∧ g.2.2.2.map (· ^ 2) = e.elev2 := by
  intro e g
  -- `e.ry`, `e.rx` are the components of `refineCenter` at the model's centre, which is the generated `refine_center` there
  have hrf := refine_center_is_generated corr n m e.cy e.cx 2
  have hsh : ∀ (r : ℚ) (p : ℤ), r + (p : ℚ) - (c : ℚ) = r + ((Gen.shift 0 p c : ℤ) : ℚ) := by
    intro r p
    unfold Gen.shift
    push_cast
    ring
  refine ⟨rfl, ?_, rfl, ?_⟩
  · show ((Gen.refine_center corr n m e.cy e.cx 2).1 + (p0 : ℚ) - (c : ℚ),
      (Gen.refine_center corr n m e.cy e.cx 2).2 + (p1 : ℚ) - (c : ℚ)) = _
    rw [← hrf, hsh, hsh]
    rfl
  · show (Gen.peak_elevation corr n m sqrt (Gen.refine_center corr n m e.cy e.cx 2).1
      (Gen.refine_center corr n m e.cy e.cx 2).2 (corr e.cy e.cx) Model.elev_rmin).map (· ^ 2) = e.elev2
    rw [← hrf]
    exact peak_elevation_is_generated sqrt hs corr n m _ _ _
      (evaluate_isMaxAt corr n m (Int.natCast_pos.mpr hn) (Int.natCast_pos.mpr hm)).2.2

/-- circular convolution with a delta at `q` reads the mask at `(k − q) mod n` -/
theorem conv_delta (mask : ℤ → ℚ) (n q k : ℤ) (hn : 0 < n) (hq : 0 ≤ q ∧ q < n) :
    circConv1 mask (fun t => if t = q then 1 else 0) n k = mask ((k - q) % n) := by
  unfold circConv1
  -- the only non-zero term is `m = (k − q) mod n`, where the data index `(k − m) mod n` is `q`
  rw [lsum_irange_single n ((k - q) % n) _ (emod_mem _ n hn)]
  · beta_reduce
    rw [if_pos (by rw [Int.sub_emod_emod, Int.sub_sub_self, Int.emod_eq_of_lt hq.1 hq.2]), Rat.mul_one]
  · intro m hm0 hm1 hne
    beta_reduce
    rw [if_neg, Rat.mul_zero]
    intro hcon
    refine hne ?_
    rw [← hcon, Int.sub_emod_emod, Int.sub_sub_self, Int.emod_eq_of_lt hm0 hm1]

/-- **Index map of the correlation (one axis): with `ifftshift` the response to a delta at `q`
evaluated at `j` is the mask value at `n//2 + (j − q)` — the mask centre sits on `j = q` for every
size `n`, even or odd.** -/
theorem corr_index_map (mask : ℤ → ℚ) (n q j : ℤ) (hn : 0 < n) (hq : 0 ≤ q ∧ q < n) :
    circConv1 mask (fun t => if t = q then 1 else 0) n (shiftSrc "fft.ifftshift" n j)
      = mask ((j + n / 2 - q) % n) := by
  rw [conv_delta mask n q _ hn hq, shiftSrc_ifftshift, Int.emod_sub_emod]

/-- at `j = q` this is the mask centre `n//2`, for all `n ≥ 1` -/
theorem corr_peak_index (mask : ℤ → ℚ) (n q : ℤ) (hn : 0 < n) (hq : 0 ≤ q ∧ q < n) :
    circConv1 mask (fun t => if t = q then 1 else 0) n (shiftSrc "fft.ifftshift" n q) = mask (n / 2) := by
  rw [corr_index_map mask n q q hn hq, add_sub_cancel_left,
    Int.emod_eq_of_lt (by omega) (by omega)]

/-- Defect D4 shape: with `fftshift` and odd `n` the mask centre is hit one pixel early
(`n = 3`, `q = 1`: the response at `j = 1` reads mask[2], the centre mask[1] is read at `j = 0`). -/
theorem fftshift_counterexample :
    shiftSrc "fft.fftshift" 3 1 = 0 ∧ shiftSrc "fft.ifftshift" 3 1 = 2 ∧
    shiftSrc "fft.fftshift" 4 1 = shiftSrc "fft.ifftshift" 4 1 := by decide +kernel

/-- **The FFT route equals the direct sum (mathematical part of A-FFT), for every frame size and
both pipelines as the source has them now**: the value the model's direct circular sum gives at map
position `(y, x)` is the inverse 2-D discrete Fourier transform of the product of the 2-D DFTs of
mask and data, read at index `((y + H//2) mod H, (x + W//2) mod W)` — which is what
`ifftshift(irfft2(rfft2(mask) * rfft2(data), s=(H, W)))[y, x]` denotes.  What stays assumed about
NumPy is only that `rfft2` / `irfft2` compute these transforms (Hermitian-packed, rounded). -/
theorem corr_is_fft_route (mask data : ℤ → ℤ → ℚ) (H W : ℕ) [NeZero H] [NeZero W] (y x : ℤ) :
    (((corrMap Gen.fast_corr_shift mask data H W y x : ℚ) : ℂ)
      = Fourier.invDft2 (fun k1 k2 => Fourier.dft2 (liftZ H W mask) k1 k2 * Fourier.dft2 (liftZ H W data) k1 k2)
          (((y + (H : ℤ) / 2) % (H : ℤ) : ℤ) : ZMod H) (((x + (W : ℤ) / 2) % (W : ℤ) : ℤ) : ZMod W)) ∧
    (((corrMap Gen.full_corr_shift mask data H W y x : ℚ) : ℂ)
      = Fourier.invDft2 (fun k1 k2 => Fourier.dft2 (liftZ H W mask) k1 k2 * Fourier.dft2 (liftZ H W data) k1 k2)
          (((y + (H : ℤ) / 2) % (H : ℤ) : ℤ) : ZMod H) (((x + (W : ℤ) / 2) % (W : ℤ) : ℤ) : ZMod W)) := by
  -- `Gen.fast_corr_shift` and `Gen.full_corr_shift` are both `fft.ifftshift`, so the two conjuncts are one statement
  have h := corrMap_eq_invDft2 "fft.ifftshift" mask data H W y x
  rw [shiftSrc_ifftshift, shiftSrc_ifftshift] at h
  exact ⟨h, h⟩

/-- **the route of the code, as written, for every frame shape and both pipelines**: the model's correlation map at
`(y, x)` is `ifftshift(irfft2(rfft2(mask) * rfft2(data), s=(H, W)))[y, x]`, where `rfft2` keeps the column frequencies
`0 … W/2` of the 2-D DFT and `irfft2(·, s)` inverts the Hermitian extension of such a half spectrum
(`Fourier.rfft2`, `Fourier.irfft2`: the documented meaning of the NumPy calls — the remaining content of A-FFT, besides
rounding).  Odd `W` included: the half spectrum of width `W/2 + 1` does not determine `W` (`Fourier.half_spectrum_ambiguous`),
which is why the explicit `s=` is needed (defect D1). -/
theorem corr_is_rfft_route (mask data : ℤ → ℤ → ℚ) (H W : ℕ) [NeZero H] [NeZero W] (y x : ℤ) :
    (((corrMap Gen.fast_corr_shift mask data H W y x : ℚ) : ℂ)
      = Fourier.irfft2 (W := W) (fun a m => Fourier.rfft2 (liftZ H W mask) a m * Fourier.rfft2 (liftZ H W data) a m)
          (((y + (H : ℤ) / 2) % (H : ℤ) : ℤ) : ZMod H) (((x + (W : ℤ) / 2) % (W : ℤ) : ℤ) : ZMod W)) ∧
    (((corrMap Gen.full_corr_shift mask data H W y x : ℚ) : ℂ)
      = Fourier.irfft2 (W := W) (fun a m => Fourier.rfft2 (liftZ H W mask) a m * Fourier.rfft2 (liftZ H W data) a m)
          (((y + (H : ℤ) / 2) % (H : ℤ) : ℤ) : ZMod H) (((x + (W : ℤ) / 2) % (W : ℤ) : ℤ) : ZMod W)) := by
  have h := corrMap_eq_cconv2 "fft.ifftshift" mask data H W y x
  -- rational images are real, which is what the convolution theorem for the half spectra asks for
  rw [shiftSrc_ifftshift, shiftSrc_ifftshift, liftZ_real H W mask, liftZ_real H W data] at h
  rw [liftZ_real H W mask, liftZ_real H W data, Fourier.irfft2_mul_rfft2]
  exact ⟨h, h⟩

/-- the spectra multiplied by the implementation are Hermitian (real inputs), and so is their
product — the half spectrum kept by `rfft2` determines the whole, and `irfft2` returns a real map -/
theorem real_spectrum_hermitian {N : ℕ} [NeZero N] (f g : ZMod N → ℝ) (k : ZMod N) :
    ZMod.dft (fun j => (f j : ℂ)) (-k) * ZMod.dft (fun j => (g j : ℂ)) (-k)
      = (starRingEnd ℂ) (ZMod.dft (fun j => (f j : ℂ)) k * ZMod.dft (fun j => (g j : ℂ)) k) :=
  Fourier.hermitian_mul _ _ (Fourier.dft_real_hermitian f) (Fourier.dft_real_hermitian g) k

/-- non-vacuity: evaluation of a 4×4 map with a unique maximum at (2,1) -/
example : (evaluate (fun y x => if y = 2 ∧ x = 1 then 5 else if y = 2 ∧ x = 2 then 3 else 1) 4 4).cy = 2
    ∧ (evaluate (fun y x => if y = 2 ∧ x = 1 then 5 else if y = 2 ∧ x = 2 then 3 else 1) 4 4).cx = 1
    ∧ (evaluate (fun y x => if y = 2 ∧ x = 1 then 5 else if y = 2 ∧ x = 2 then 3 else 1) 4 4).height = 5 := by
  decide +kernel

end C03
