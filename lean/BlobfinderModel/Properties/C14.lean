import BlobfinderModel.Proofs.Transpose
/-!
# C14 — equivariant to translation and axis swap, invariant to intensity offset
Exact arithmetic (ℚ); the logarithm is never evaluated: the statements are about its argument.
Residual (oracle only): float32 rounding under cyclic shifts of the full-frame method.  Transposition is
proved for maps with a unique maximiser (argmax tie-breaking is row-major, so ties are not mirror images).
-/
namespace C14
open Model

variable {α : Type} [OfNat α 0]

/-- **Translating frame content and peak by the same vector gives identical crops** as long as
both windows lie inside their frames (cell by cell, any crop size) -/
theorem crop_translate (frame : ℤ → ℤ → α) (fy fx c p0 p1 t0 t1 y x : ℤ)
    (hin : 0 ≤ p0 - c + y ∧ p0 - c + y < fy ∧ 0 ≤ p1 - c + x ∧ p1 - c + x < fx)
    (hin' : 0 ≤ p0 + t0 - c + y ∧ p0 + t0 - c + y < fy ∧ 0 ≤ p1 + t1 - c + x ∧ p1 + t1 - c + x < fx) :
    cropPixel (fun yy xx => frame (yy - t0) (xx - t1)) fy fx c (p0 + t0) (p1 + t1) y x
      = cropPixel frame fy fx c p0 p1 y x := by
  rw [C13.cropPixel_inside hin', C13.cropPixel_inside hin]
  exact congrArg₂ frame (by ring) (by ring)

/-- … and the results are re-anchored additively, so centres and refined positions move by the
translation while everything window-relative (height, elevation) is unchanged -/
theorem shift_translate (v anchor c t : ℤ) : Gen.shift v (anchor + t) c = Gen.shift v anchor c + t := by
  unfold Gen.shift; ring

/-- **adding a constant to all pixels changes nothing**: the minimum moves with it -/
theorem logscale_offset (x m k : ℚ) :
    Gen.log_arg (x + k) (m + k) = Gen.log_arg x m ∧
    Gen.cropbuf_log_arg (x + k) (Gen.cropbuf_m (m + k)) = Gen.cropbuf_log_arg x (Gen.cropbuf_m m) := by
  unfold Gen.log_arg Gen.cropbuf_log_arg Gen.cropbuf_m
  constructor <;> ring

/-- `minList [] = 0`, hence the hypothesis -/
theorem minList_map_add (l : List ℚ) (k : ℚ) (hne : l ≠ []) : minList (l.map (· + k)) = minList l + k := by
  rw [minList_eq, minList_eq, minOpt_map_mono l (· + k) fun a _ b _ hab => add_le_add_left hab k]
  cases l with
  | nil => exact absurd rfl hne
  | cons a t => rfl

/-- **cyclic translation of the frame cyclically translates the full-frame correlation map**
(both shift kinds, every size) -/
theorem conv_roll (kind : String) (mask data : ℤ → ℤ → ℚ) (h w t0 t1 y x : ℤ) :
    corrMap kind mask (fun yy xx => data ((yy - t0) % h) ((xx - t1) % w)) h w y x
      = corrMap kind mask data h w ((y - t0) % h) ((x - t1) % w) := by
  unfold corrMap
  simp only []  -- the `let`s of `corrMap`
  -- both shift kinds add a constant `s` modulo `n`; then both sides are `(j + s - m - t) % n`
  have key : ∀ (n j t m : ℤ), ((shiftSrc kind n j - m) % n - t) % n = (shiftSrc kind n ((j - t) % n) - m) % n := by
    intro n j t m
    obtain ⟨s, hs⟩ := shiftSrc_eq_add kind n
    simp only [hs, Int.emod_sub_emod, Int.emod_add_emod]
    congr 1
    ring
  simp only [key]

/-- transposing the frame transposes the zero-padded window (the crop commutes with the axis swap) -/
theorem window_transpose (frame : ℤ → ℤ → α) (fy fx yy xx : ℤ) :
    window (fun a b => frame b a) fx fy xx yy = window frame fy fx yy xx :=
  Model.window_transpose frame fy fx yy xx

/-- the masks use `sig_shape[0]` for the y centre / size and `sig_shape[1]` for x with the same
centre expression on both axes (checked by the translator, see `Gen.mask_center`), and the
refinement radius and re-anchoring treat the two axes alike -/
theorem axes_alike (r y x h w : ℤ) : Model.refine_r r y x h w = Model.refine_r r x y w h :=
  refine_r_swap r x y w h

/-! ### The composed pipelines (model level) -/

theorem minList_flat_add_const (f : ℤ → ℤ → ℚ) (n m : ℤ) (hn : 0 < n) (hm : 0 < m) (k : ℚ) :
    minList (flat (fun y x => f y x + k) n m) = minList (flat f n m) + k := by
  have hmap : flat (fun y x => f y x + k) n m = (flat f n m).map (· + k) := by
    simp only [flat, List.map_flatMap, List.map_map]; rfl
  rw [hmap, minList_map_add _ k (flat_ne_nil f n m hn hm)]

theorem logFrame_offset (L : ℚ → ℚ) (frame : ℤ → ℤ → ℚ) (fy fx : ℤ) (hfy : 0 < fy) (hfx : 0 < fx) (k : ℚ) :
    logFrame L (fun y x => frame y x + k) fy fx = logFrame L frame fy fx := by
  funext y x
  unfold logFrame
  rw [minList_flat_add_const frame fy fx hfy hfx, (logscale_offset _ _ k).1]

theorem logCrop_offset (L : ℚ → ℚ) (crop : ℤ → ℤ → ℚ) (h w : ℤ) (hh : 0 < h) (hw : 0 < w) (k : ℚ) :
    logCrop L (fun y x => crop y x + k) h w = logCrop L crop h w := by
  funext y x
  unfold logCrop
  rw [minList_flat_add_const crop h w hh hw, (logscale_offset _ _ k).2]

/-- **Translation equivariance of the crop-based method, end to end**: if the frame content and the
peak are translated by the same integer vector and the window lies inside the frame before and
after, the integer centre and the refined position move by that vector and height and elevation
are identical — exactly, for every mask, every logarithm, every crop size. -/
theorem fastPeak_translate (L : ℚ → ℚ) (mask frame : ℤ → ℤ → ℚ) (fy fx : ℤ) (c : ℕ) (hc : 0 < c)
    (p t : ℤ × ℤ)
    (hin : ∀ y x : ℤ, 0 ≤ y → y < 2 * c → 0 ≤ x → x < 2 * c →
      (0 ≤ p.1 - c + y ∧ p.1 - c + y < fy ∧ 0 ≤ p.2 - c + x ∧ p.2 - c + x < fx) ∧
      (0 ≤ p.1 + t.1 - c + y ∧ p.1 + t.1 - c + y < fy ∧ 0 ≤ p.2 + t.2 - c + x ∧ p.2 + t.2 - c + x < fx)) :
    let e := fastPeak L mask frame fy fx c p
    let e' := fastPeak L mask (fun yy xx => frame (yy - t.1) (xx - t.2)) fy fx c (p.1 + t.1, p.2 + t.2)
    e'.cy = e.cy + t.1 ∧ e'.cx = e.cx + t.2 ∧ e'.ry = e.ry + t.1 ∧ e'.rx = e.rx + t.2 ∧
    e'.height = e.height ∧ e'.elev2 = e.elev2 := by
  intro e e'
  refine reanchor_translate _ _ p.1 p.2 t.1 t.2 c ?_ (fastPeak_eq ..) (fastPeak_eq ..)
  refine fastEval_congr L mask c hc _ _ fun y x hy0 hy1 hx0 hx1 => ?_
  obtain ⟨h1, h2⟩ := hin y x hy0 hy1 hx0 hx1
  exact crop_translate frame fy fx c p.1 p.2 t.1 t.2 y x h1 h2

theorem minList_flat_roll (frame : ℤ → ℤ → ℚ) (n m : ℤ) (hn : 0 < n) (hm : 0 < m) (t0 t1 : ℤ) :
    minList (flat (fun yy xx => frame ((yy - t0) % n) ((xx - t1) % m)) n m) = minList (flat frame n m) := by
  refine minList_congr_mem _ _ fun v => ?_
  rw [mem_flat, mem_flat]
  constructor
  · rintro ⟨y, x, _, _, rfl⟩
    exact ⟨_, _, emod_mem _ n hn, emod_mem _ m hm, rfl⟩
  · rintro ⟨y, x, hy, hx, rfl⟩
    refine ⟨(y + t0) % n, (x + t1) % m, emod_mem _ n hn, emod_mem _ m hm, ?_⟩
    -- `((y + t0) % n - t0) % n = y` for `y` in range
    rw [Int.emod_sub_emod, Int.emod_sub_emod, Int.add_sub_cancel, Int.add_sub_cancel,
      Int.emod_eq_of_lt hy.1 hy.2, Int.emod_eq_of_lt hx.1 hx.2]

theorem logFrame_roll (L : ℚ → ℚ) (frame : ℤ → ℤ → ℚ) (fy fx : ℤ) (hfy : 0 < fy) (hfx : 0 < fx) (t0 t1 : ℤ) :
    logFrame L (fun yy xx => frame ((yy - t0) % fy) ((xx - t1) % fx)) fy fx
      = fun yy xx => logFrame L frame fy fx ((yy - t0) % fy) ((xx - t1) % fx) := by
  funext yy xx
  unfold logFrame
  rw [minList_flat_roll frame fy fx hfy hfx]

theorem fullCorr_roll (L : ℚ → ℚ) (mask frame : ℤ → ℤ → ℚ) (fy fx : ℤ) (hfy : 0 < fy) (hfx : 0 < fx) (t0 t1 y x : ℤ) :
    fullCorr L mask (fun yy xx => frame ((yy - t0) % fy) ((xx - t1) % fx)) fy fx y x
      = fullCorr L mask frame fy fx ((y - t0) % fy) ((x - t1) % fx) := by
  unfold fullCorr
  rw [logFrame_roll L frame fy fx hfy hfx]
  exact conv_roll _ mask (logFrame L frame fy fx) fy fx t0 t1 y x

/-- **Cyclic translation equivariance of the full-frame method, end to end (exact arithmetic)**: rolling
the frame content cyclically by `t` and moving the peak by `t` moves centre and refined position by
`t` and leaves height and elevation unchanged, as long as the peak's window lies inside the frame
before and after (so that the window does not straddle the seam). -/
theorem fullPeak_cyclic_translate (L : ℚ → ℚ) (mask frame : ℤ → ℤ → ℚ) (fy fx : ℕ) (hfy : 0 < fy) (hfx : 0 < fx)
    (c : ℕ) (hc : 0 < c) (p t : ℤ × ℤ)
    (hin : ∀ y x : ℤ, 0 ≤ y → y < 2 * c → 0 ≤ x → x < 2 * c →
      (0 ≤ p.1 - c + y ∧ p.1 - c + y < fy ∧ 0 ≤ p.2 - c + x ∧ p.2 - c + x < fx) ∧
      (0 ≤ p.1 + t.1 - c + y ∧ p.1 + t.1 - c + y < fy ∧ 0 ≤ p.2 + t.2 - c + x ∧ p.2 + t.2 - c + x < fx)) :
    let e := fullPeak L mask frame fy fx c p
    let e' := fullPeak L mask (fun yy xx => frame ((yy - t.1) % fy) ((xx - t.2) % fx)) fy fx c (p.1 + t.1, p.2 + t.2)
    e'.cy = e.cy + t.1 ∧ e'.cx = e.cx + t.2 ∧ e'.ry = e.ry + t.1 ∧ e'.rx = e.rx + t.2 ∧
    e'.height = e.height ∧ e'.elev2 = e.elev2 := by
  intro e e'
  refine reanchor_translate _ _ p.1 p.2 t.1 t.2 c ?_ (fullPeak_eq ..) (fullPeak_eq ..)
  refine fullEval_congr c hc _ _ fun y x hy0 hy1 hx0 hx1 => ?_
  obtain ⟨h1, h2⟩ := hin y x hy0 hy1 hx0 hx1
  have ey : p.1 + t.1 - c + y - t.1 = p.1 - c + y := by ring
  have ex : p.2 + t.2 - c + x - t.2 = p.2 - c + x := by ring
  rw [C13.cropPixel_inside h2, C13.cropPixel_inside h1,
    fullCorr_roll L mask frame fy fx (Int.natCast_pos.mpr hfy) (Int.natCast_pos.mpr hfx), ey, ex]
  -- the translated cell rolled back lies in the frame: no wrap-around
  rw [Int.emod_eq_of_lt h1.1 h1.2.1, Int.emod_eq_of_lt h1.2.2.1 h1.2.2.2]

/-- **Offset invariance of the full-frame method, end to end, for every peak (also windows that
overlap the border)**: adding a constant to all pixels changes no output. -/
theorem fullPeak_offset (L : ℚ → ℚ) (mask frame : ℤ → ℤ → ℚ) (fy fx : ℕ) (hfy : 0 < fy) (hfx : 0 < fx)
    (c : ℤ) (p : ℤ × ℤ) (k : ℚ) :
    fullPeak L mask (fun y x => frame y x + k) fy fx c p = fullPeak L mask frame fy fx c p := by
  unfold fullPeak fullCorr
  rw [logFrame_offset L frame fy fx (Int.natCast_pos.mpr hfy) (Int.natCast_pos.mpr hfx)]

/-- **Offset invariance of the crop-based method for a window inside the frame** (a window that
overlaps the border keeps its zero padding while the data moves, so the statement is about
windows inside the frame — the oracle uses the same precondition). -/
theorem fastPeak_offset (L : ℚ → ℚ) (mask frame : ℤ → ℤ → ℚ) (fy fx : ℤ) (c : ℕ) (hc : 0 < c) (p : ℤ × ℤ) (k : ℚ)
    (hin : ∀ y x : ℤ, 0 ≤ y → y < 2 * c → 0 ≤ x → x < 2 * c →
      0 ≤ p.1 - c + y ∧ p.1 - c + y < fy ∧ 0 ≤ p.2 - c + x ∧ p.2 - c + x < fx) :
    fastPeak L mask (fun y x => frame y x + k) fy fx c p = fastPeak L mask frame fy fx c p := by
  rw [fastPeak_eq, fastPeak_eq]
  refine congrArg (reanchor · p.1 p.2 c) ?_
  -- inside the frame the crop of the offset frame is the offset crop, and log scaling is blind to the offset
  have hcrop : AgreeOn (fun y x => cropPixel (fun y x => frame y x + k) fy fx c p.1 p.2 y x)
      (fun y x => cropPixel frame fy fx c p.1 p.2 y x + k) (2 * c) (2 * c) := by
    intro y x hy0 hy1 hx0 hx1
    have h := hin y x hy0 hy1 hx0 hx1
    beta_reduce
    rw [C13.cropPixel_inside h, C13.cropPixel_inside h]
  rw [fastEval_congr L mask c hc _ _ hcrop]
  unfold fastEval
  have h2c : (0 : ℤ) < 2 * c := by omega
  rw [logCrop_offset L _ _ _ h2c h2c]

/-- **Axis swap of the evaluation kernels** (any map with a unique maximiser, any size): centre and
refined position swap their coordinates, height and elevation are unchanged. -/
theorem evaluate_transposed (corr : ℤ → ℤ → ℚ) (n m : ℕ) (hn : 0 < n) (hm : 0 < m)
    (huniq : ∀ y x y' x' : ℤ, IsMaxAt corr n m y x → IsMaxAt corr n m y' x' → y = y' ∧ x = x') :
    (evaluate (fun y x => corr x y) m n).cy = (evaluate corr n m).cx ∧
    (evaluate (fun y x => corr x y) m n).cx = (evaluate corr n m).cy ∧
    (evaluate (fun y x => corr x y) m n).height = (evaluate corr n m).height ∧
    (evaluate (fun y x => corr x y) m n).ry = (evaluate corr n m).rx ∧
    (evaluate (fun y x => corr x y) m n).rx = (evaluate corr n m).ry ∧
    (evaluate (fun y x => corr x y) m n).elev2 = (evaluate corr n m).elev2 :=
  EvalOut.fields_of_eq_swap (evaluate_transpose corr n m (Int.natCast_pos.mpr hn) (Int.natCast_pos.mpr hm) huniq)

/-- **Axis swap of the crop-based method, end to end**: transposed frame, transposed mask, swapped
peak ⇒ swapped centre and refined position, same height and elevation (unique maximiser of the
window's correlation map). -/
theorem fastPeak_transposed (L : ℚ → ℚ) (mask frame : ℤ → ℤ → ℚ) (fy fx : ℤ) (c : ℕ) (hc : 0 < c) (p : ℤ × ℤ)
    (huniq : ∀ y x y' x' : ℤ, IsMaxAt (fastCorr L mask frame fy fx c p) (2 * c : ℕ) (2 * c : ℕ) y x →
      IsMaxAt (fastCorr L mask frame fy fx c p) (2 * c : ℕ) (2 * c : ℕ) y' x' → y = y' ∧ x = x') :
    let e := fastPeak L mask frame fy fx c p
    let e' := fastPeak L (fun a b => mask b a) (fun a b => frame b a) fx fy c (p.2, p.1)
    e'.cy = e.cx ∧ e'.cx = e.cy ∧ e'.height = e.height ∧ e'.ry = e.rx ∧ e'.rx = e.ry ∧ e'.elev2 = e.elev2 := by
  rw [Nat.cast_mul, Nat.cast_ofNat] at huniq
  exact EvalOut.fields_of_eq_swap (fastPeak_transpose L mask frame fy fx c (Int.natCast_pos.mpr hc) p huniq)

/-- the correlation map itself commutes with the axis swap for every size, both shift kinds -/
theorem corrMap_transposed (kind : String) (mask data : ℤ → ℤ → ℚ) (H W : ℕ) (y x : ℤ) :
    corrMap kind (fun a b => mask b a) (fun a b => data b a) W H x y = corrMap kind mask data H W y x :=
  corrMap_transpose kind mask data H W y x

/-- the uniqueness hypothesis is necessary: a 2×2 map with two equal maxima on the anti-diagonal is
evaluated to centre (0, 1), its transpose also to (0, 1) — not to the swapped (1, 0) -/
theorem transpose_tie_counterexample :
    let corr : ℤ → ℤ → ℚ := fun y x => if (y = 0 ∧ x = 1) ∨ (y = 1 ∧ x = 0) then 1 else 0
    ((evaluate corr 2 2).cy, (evaluate corr 2 2).cx) = (0, 1) ∧
    ((evaluate (fun y x => corr x y) 2 2).cy, (evaluate (fun y x => corr x y) 2 2).cx) = (0, 1) := by
  decide +kernel

/-- non-vacuity of `crop_translate`: 6×6 frame, crop size 1 -/
example : cropPixel (α := ℤ) (fun yy xx => (fun a b => 10 * a + b) (yy - 1) (xx - 2)) 6 6 1 (2 + 1) (1 + 2) 0 1
    = cropPixel (α := ℤ) (fun a b => 10 * a + b) 6 6 1 2 1 0 1 := by decide

end C14
