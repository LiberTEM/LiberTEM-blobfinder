import BlobfinderModel.Model.Blocks
/-!
# C08 — results do not depend on buffer size, peak order or other peaks

`n` = number of peaks, `b` = buffer count (`len(crop_bufs)` resp. `buf_count`).
All statements hold for every `n ≥ 0`, every `b ≥ 1`, every per-crop function `f`, every
peak list and every previous content of the output arrays.
The file imports the model only (no Mathlib), hence the `Int.*` lemma names.
-/
namespace C08
open Model

/-- Python floor division by a positive number, characterised. -/
theorem fdiv_pos_spec (a b : Int) (hb : 0 < b) :
    Int.fdiv a b * b ≤ a ∧ a < (Int.fdiv a b + 1) * b := by
  rw [Int.fdiv_eq_ediv_of_nonneg _ (Int.le_of_lt hb)]
  constructor
  · exact Int.ediv_mul_le a (by omega)
  · exact Int.lt_ediv_add_one_mul_self a hb

theorem le_fdiv (a b k : Int) (hb : 0 < b) (h : k * b ≤ a) : k ≤ Int.fdiv a b := by
  rw [Int.fdiv_eq_ediv_of_nonneg _ (Int.le_of_lt hb)]
  exact Int.le_ediv_of_mul_le hb h

/-- What the theorems need from the generated arithmetic (proved for both pipelines). -/
structure GoodArith (A : BlockArith) : Prop where
  start_eq : ∀ n b k, A.start n b k = k * b
  stop_eq : ∀ n b k, A.stop n b k = min ((k + 1) * b) n
  size_eq : ∀ s e, A.size s e = e - s
  count_lo : ∀ n b, 0 ≤ n → 0 < b → (A.blockCount n b - 1) * b < n ∨ n = 0
  count_hi : ∀ n b, 0 ≤ n → 0 < b → n ≤ A.blockCount n b * b
  count_nonneg : ∀ n b, 0 ≤ n → 0 < b → 0 ≤ A.blockCount n b

/-- The block count as both pipelines generate it.  The first conjunct is spelled `(count - 1) * b` so that it is
the left disjunct of `GoodArith.count_lo` as it stands; it also holds for `n = 0`, where the count is 0. -/
theorem block_count_spec (n b : Int) (hn : 0 ≤ n) (hb : 0 < b) :
    (Int.fdiv (n - 1) b + 1 - 1) * b < n ∧ n ≤ (Int.fdiv (n - 1) b + 1) * b ∧
      0 ≤ Int.fdiv (n - 1) b + 1 := by
  have h := fdiv_pos_spec (n - 1) b hb
  have h1 : -1 ≤ Int.fdiv (n - 1) b := le_fdiv (n - 1) b (-1) hb (by omega)
  rw [Int.add_sub_cancel]
  omega

theorem fast_good : GoodArith fastArith where
  start_eq _ _ _ := rfl
  stop_eq _ _ _ := rfl
  size_eq _ _ := rfl
  count_lo n b hn hb := Or.inl (block_count_spec n b hn hb).1
  count_hi n b hn hb := (block_count_spec n b hn hb).2.1
  count_nonneg n b hn hb := (block_count_spec n b hn hb).2.2

-- The generated `Gen.full_*` are the `Gen.fast_*` letter for letter, `stop` apart: that is why the fields of `fast_good` typecheck
-- here, and this is the place that fails if a regenerated `Gen` differs.
theorem full_good : GoodArith fullArith :=
  { fast_good with stop_eq := fun _ _ _ => Int.min_comm _ _ }

/-- Mathlib's `ite_or`, right to left (this file does not import Mathlib) -/
theorem ite_ite_same {γ : Type} (p q : Prop) [Decidable p] [Decidable q] (a c : γ) :
    (if p then a else if q then a else c) = if p ∨ q then a else c := by
  by_cases hp : p
  · simp [hp]
  · simp [hp]

section generic
variable {α β : Type} {A : BlockArith} (hA : GoodArith A)
include hA

theorem block_range (n b k : Int) (hb : 0 < b) (hk : 0 ≤ k) :
    0 ≤ A.start n b k ∧ A.stop n b k ≤ n ∧ A.size (A.start n b k) (A.stop n b k) ≤ b := by
  rw [hA.size_eq, hA.start_eq, hA.stop_eq, Int.add_mul, Int.one_mul]
  have := Int.mul_nonneg hk (Int.le_of_lt hb)
  omega

/-- Loop invariant of the block loop. -/
theorem runBlocksN_spec (f : α → β) (peaks : Int → α) (n b : Int) (hb : 0 < b)
    (out : Int → β) (m : Nat) (i : Int) :
    runBlocksN A f peaks n b out m i
      = if 0 ≤ i ∧ i < min ((m : Int) * b) n then f (peaks i) else out i := by
  induction m with
  | zero => exact (if_neg (by omega)).symm
  | succ m ih =>
    have hmb : 0 ≤ (m : Int) * b := Int.mul_nonneg (Int.natCast_nonneg m) (Int.le_of_lt hb)
    simp only [runBlocksN, blockStep, hA.start_eq, hA.stop_eq, ih, Int.natCast_succ, Int.add_mul,
      Int.one_mul, ite_ite_same, Int.lt_min]
    -- block `m` writes `[m * b, min (m * b + b) n)`, the blocks before it `[0, min (m * b) n)`; `0 ≤ m * b` joins them
    exact ite_congr (propext (by omega)) (fun _ => rfl) (fun _ => rfl)

/-- **Every output entry is written with the value for its own peak, for every buffer
count** (incl. `b = 1` and `b > n`), and nothing else is written. -/
theorem runBlocks_spec (f : α → β) (peaks : Int → α) (n b : Int) (hn : 0 ≤ n) (hb : 0 < b)
    (out : Int → β) (i : Int) :
    runBlocks A f peaks n b out i = if 0 ≤ i ∧ i < n then f (peaks i) else out i := by
  unfold runBlocks
  rw [runBlocksN_spec hA f peaks n b hb out, Int.toNat_of_nonneg (hA.count_nonneg n b hn hb),
    Int.min_eq_right (hA.count_hi n b hn hb)]

theorem buffer_count_irrelevant (f : α → β) (peaks : Int → α) (n b b' : Int) (hn : 0 ≤ n)
    (hb : 0 < b) (hb' : 0 < b') (out : Int → β) :
    runBlocks A f peaks n b out = runBlocks A f peaks n b' out := by
  funext i
  rw [runBlocks_spec hA f peaks n b hn hb, runBlocks_spec hA f peaks n b' hn hb']

/-- Reordering the peak list reorders the results in the same way (any `σ`, in particular
permutations and lists with duplicates). -/
theorem reorder_equivariant (f : α → β) (peaks : Int → α) (σ : Int → Int) (n b : Int)
    (hn : 0 ≤ n) (hb : 0 < b) (out : Int → β) (i : Int) (hi : 0 ≤ i ∧ i < n)
    (hσ : 0 ≤ σ i ∧ σ i < n) :
    runBlocks A f (fun j => peaks (σ j)) n b out i = runBlocks A f peaks n b out (σ i) := by
  rw [runBlocks_spec hA _ _ n b hn hb, runBlocks_spec hA _ _ n b hn hb, if_pos hi, if_pos hσ]

/-- Adding, removing or changing *other* peaks (and changing the list length or buffer count)
does not change the result reported for a peak. -/
theorem other_peaks_irrelevant (f : α → β) (peaks peaks' : Int → α) (n n' b b' : Int)
    (hn : 0 ≤ n) (hn' : 0 ≤ n') (hb : 0 < b) (hb' : 0 < b') (out out' : Int → β)
    (i i' : Int) (hi : 0 ≤ i ∧ i < n) (hi' : 0 ≤ i' ∧ i' < n') (same : peaks i = peaks' i') :
    runBlocks A f peaks n b out i = runBlocks A f peaks' n' b' out' i' := by
  rw [runBlocks_spec hA _ _ n b hn hb, runBlocks_spec hA _ _ n' b' hn' hb', if_pos hi,
    if_pos hi', same]

/-- Shape of the schedule: every block is non-empty, fits the buffer, blocks are consecutive
and the last one ends at `n`. -/
theorem blocks_cover (n b : Int) (hn : 1 ≤ n) (hb : 0 < b) (k : Int) (hk : 0 ≤ k)
    (hk' : k < A.blockCount n b) :
    A.start n b 0 = 0 ∧
    1 ≤ A.size (A.start n b k) (A.stop n b k) ∧ A.size (A.start n b k) (A.stop n b k) ≤ b ∧
    (k + 1 < A.blockCount n b → A.stop n b k = A.start n b (k + 1)) ∧
    (k + 1 = A.blockCount n b → A.stop n b k = n) := by
  -- every block starts below `n`: `j * b ≤ (count - 1) * b < n` for `j < count`
  have below : ∀ j, j < A.blockCount n b → j * b < n := fun j hj => by
    have := Int.mul_le_mul_of_nonneg_right (Int.le_sub_one_of_lt hj) (Int.le_of_lt hb)
    have := hA.count_lo n b (by omega) hb
    omega
  have hkn := below k hk'
  simp only [hA.start_eq, hA.stop_eq, hA.size_eq, Int.add_mul, Int.one_mul]
  refine ⟨Int.zero_mul b, by omega, by omega, fun hlt => ?_, fun heq => ?_⟩
  · have := below (k + 1) hlt
    rw [Int.add_mul, Int.one_mul] at this
    omega
  · have := hA.count_hi n b (by omega) hb
    rw [← heq, Int.add_mul, Int.one_mul] at this
    omega

end generic

theorem fast_runBlocks_spec {α β : Type} (f : α → β) (peaks : Int → α) (n b : Int) (hn : 0 ≤ n)
    (hb : 0 < b) (out : Int → β) (i : Int) :
    runBlocks fastArith f peaks n b out i = if 0 ≤ i ∧ i < n then f (peaks i) else out i :=
  runBlocks_spec fast_good f peaks n b hn hb out i

theorem full_runBlocks_spec {α β : Type} (f : α → β) (peaks : Int → α) (n b : Int) (hn : 0 ≤ n)
    (hb : 0 < b) (out : Int → β) (i : Int) :
    runBlocks fullArith f peaks n b out i = if 0 ≤ i ∧ i < n then f (peaks i) else out i :=
  runBlocks_spec full_good f peaks n b hn hb out i

/-- `get_buf_count` returns between 1 and the number of peaks … -/
theorem buf_count_bounds (c n itemsize limit : Int) (hn : 1 ≤ n) :
    1 ≤ Gen.get_buf_count c n itemsize limit ∧ Gen.get_buf_count c n itemsize limit ≤ n := by
  simp only [Gen.get_buf_count]
  omega

/-- … and respects the byte limit whenever a single crop fits. -/
theorem buf_count_respects_limit (c n itemsize limit : Int) (hn : 1 ≤ n) (hc : 1 ≤ c)
    (hi : 1 ≤ itemsize) (hfit : (2 * c) ^ 2 * itemsize ≤ limit) :
    Gen.get_buf_count c n itemsize limit * ((2 * c) ^ 2 * itemsize) ≤ limit := by
  simp only [Gen.get_buf_count]
  have hpos : 0 < (2 * c) ^ 2 * itemsize := Int.mul_pos (Int.pow_pos (by omega)) (by omega)
  generalize (2 * c) ^ 2 * itemsize = s at *
  -- one crop fits, so the quotient is at least 1: `max 1 _` leaves it alone and `min _ n` can only lower it
  rw [Int.max_eq_right (le_fdiv limit s 1 hpos (by omega))]
  have hq := (fdiv_pos_spec limit s hpos).1
  have := Int.mul_le_mul_of_nonneg_right (Int.min_le_left (Int.fdiv limit s) n) (Int.le_of_lt hpos)
  exact Int.le_trans this hq

/-- Non-vacuity / concrete schedule: 7 peaks, buffer for 3 → blocks [0,3) [3,6) [6,7). -/
example : schedule fastArith 7 3 = [(0, 3, 3), (3, 6, 3), (6, 7, 1)] := by decide
example : schedule fullArith 5 8 = [(0, 5, 5)] := by decide
example : Gen.get_buf_count 8 40 4 (2 ^ 19) = 40 ∧ Gen.get_buf_count 8 40 4 3000 = 2 := by decide

end C08
