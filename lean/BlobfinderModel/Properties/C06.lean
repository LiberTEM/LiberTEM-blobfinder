import BlobfinderModel.Proofs.Lattice
import BlobfinderModel.Proofs.Noise
/-!
# C06 — lattice fits are the weighted least-squares optimum and affine-covariant

One coordinate at a time (the objective is separable in y and x): observations `(i, j, w, t)`,
parameters `(z, α, β)` = that coordinate of `(zero, a, b)`, objective
`wss = Σ w (t - (z + i α + j β))²`.  The implementation's `lstsq` call is assumed (A-LA) to
return a solution of the normal equations; the model's executable solver is Cramer's rule.
-/
namespace C06
open Model

/-- The model's solver returns a solution of the normal equations whenever the weighted design
has rank 3 (`det ≠ 0`). -/
theorem cramer_solves_normal_eqs (l : List Obs) (z al be : ℚ)
    (h : solveNormal (normalOf l) = some (z, al, be)) : NormalEqs z al be l :=
  ((solveNormal_normalOf ..).mp h).2

/-- **Any solution of the normal equations is a global minimiser of the weighted sum of squared
distances**, for all non-negative weights (integer or fractional indices alike). -/
theorem lsq_optimal (l : List Obs) (hw : ∀ o ∈ l, 0 ≤ o.w) (z al be : ℚ)
    (hN : NormalEqs z al be l) (z' al' be' : ℚ) :
    wss z al be l ≤ wss z' al' be' l := by
  rw [fit_energy l z al be hN z' al' be']
  exact le_add_of_nonneg_right (quad_nonneg l hw _ _ _)

/-- with rank 3 the solution of the normal equations is unique (Cramer) -/
theorem rank3_unique (l : List Obs) (z al be : ℚ) (hN : NormalEqs z al be l)
    (hd : (normalOf l).det ≠ 0) : solveNormal (normalOf l) = some (z, al, be) :=
  (solveNormal_normalOf ..).mpr ⟨hd, hN⟩

/-- two-coordinate observations for the covariance statement -/
structure Obs2 where
  i : ℚ
  j : ℚ
  w : ℚ
  ty : ℚ
  tx : ℚ

def proj (f : Obs2 → ℚ) (l : List Obs2) : List Obs := l.map fun o => ⟨o.i, o.j, o.w, f o⟩

/-- **Affine covariance**: if `(zy, ay, by)` / `(zx, ax, bx)` fit the y / x coordinates, then for
any linear form `p·y + q·x + c` of the positions the fit is the same form of the fits (the constant
goes to the zero point only).  Applied to both rows of an affine map this says: zero is mapped
by the map, `a` and `b` by its linear part. -/
theorem affine_covariant (l : List Obs2) (zy ay by_ zx ax bx p q c : ℚ)
    (hy : NormalEqs zy ay by_ (proj (·.ty) l)) (hx : NormalEqs zx ax bx (proj (·.tx) l)) :
    NormalEqs (p * zy + q * zx + c) (p * ay + q * ax) (p * by_ + q * bx)
      (proj (fun o => p * o.ty + q * o.tx + c) l) :=
  -- `proj f l` unfolds to `obsOf l (·.i) (·.j) (·.w) f`
  normalEqs_affine l (·.i) (·.j) (·.w) (·.ty) (·.tx) p q c hy hx

/-- rescaling all weights by a common factor changes nothing -/
theorem weight_scale_invariant (l : List Obs) (k z al be : ℚ) (hk : k ≠ 0) :
    NormalEqs z al be (l.map fun o => { o with w := k * o.w }) ↔ NormalEqs z al be l := by
  unfold NormalEqs resid
  -- `k` comes out of each of the three sums, and `k * s = 0 ↔ s = 0` as `k ≠ 0`
  simp only [List.map_map, Function.comp_def, mul_assoc, lsum_map_mul_left, mul_eq_zero, hk, false_or]

/-- non-vacuity: three points of an exact lattice -/
example : solveNormal (normalOf [⟨0, 0, 1, 5⟩, ⟨1, 0, 2, 8⟩, ⟨0, 1, 1, 4⟩]) = some (5, 3, -1) := by
  decide +kernel

/-! ### conditioning: how noise in the positions moves the fitted lattice (exact arithmetic) -/

/-- **Noise propagation.**  If every observed coordinate is within `ε` of the lattice `(z, α, β)`
(`t = z + i α + j β + e`, `|e| ≤ ε`) and the weights are non-negative, then for every solution
`(z', α', β')` of the normal equations the predicted coordinate of **any** node `(i, j)` deviates from
the true one by `d` with `det N · d² ≤ vᵀ adj(N) v · ε² Σw`, `v = (1, i, j)`: `|d| ≤ ε sqrt(Σw · vᵀN⁻¹v)`.
The bound is in terms of the indices and weights of the fitted peaks only. -/
theorem noise_propagation (l : List Obs) (hw : ∀ o ∈ l, 0 ≤ o.w) (z al be eps : ℚ)
    (hn : ∀ o ∈ l, |resid z al be o| ≤ eps) (z' al' be' : ℚ) (hN : NormalEqs z' al' be' l) (i j : ℚ) :
    (normalOf l).det * ((z' + i * al' + j * be') - (z + i * al + j * be)) ^ 2
      ≤ (normalOf l).adjq 1 i j * (eps ^ 2 * (normalOf l).s1) := by
  -- for the parameter error `x`: `xᵀ N x ≤ wss' + xᵀ N x = wss ≤ ε² Σw` (energy identity); then Cauchy–Schwarz with
  -- `v = (1, i, j)`, the prediction error being `-(x·v)`
  have hq : (normalOf l).quad (z - z') (al - al') (be - be') ≤ eps ^ 2 * (normalOf l).s1 :=
    by linarith only [fit_energy l z' al' be' hN z al be, wss_le_of_noise l hw z al be eps hn, wss_nonneg l hw z' al' be']
  have e : (z' + i * al' + j * be') - (z + i * al + j * be)
      = -((z - z') * 1 + (al - al') * i + (be - be') * j) := by ring
  rw [e, neg_sq]
  exact (gram_cauchy l hw _ _ _ 1 i j).trans (mul_le_mul_of_nonneg_left hq (adjq_nonneg l hw 1 i j))

/-- at a node that takes part in the fit: `w d² ≤ ε² Σw` (leverage ≤ 1), so with equal weights the
fitted lattice passes within `ε sqrt(n)` of every fitted node and a peak that carries a fraction `f` of
the total weight is reproduced within `ε / sqrt(f)` -/
theorem fitted_node_error (l : List Obs) (hw : ∀ o ∈ l, 0 ≤ o.w) (z al be eps : ℚ)
    (hn : ∀ o ∈ l, |resid z al be o| ≤ eps) (z' al' be' : ℚ) (hN : NormalEqs z' al' be' l)
    (hd : (normalOf l).det ≠ 0) (o : Obs) (ho : o ∈ l) :
    o.w * ((z' + o.i * al' + o.j * be') - (z + o.i * al + o.j * be)) ^ 2 ≤ eps ^ 2 * (normalOf l).s1 := by
  have hR : 0 ≤ eps ^ 2 * (normalOf l).s1 := (wss_nonneg l hw z al be).trans (wss_le_of_noise l hw z al be eps hn)
  have hD : 0 < (normalOf l).det := lt_of_le_of_ne (det_nonneg l hw) (Ne.symm hd)
  -- with `D = det N`, `C = vᵀ adj(N) v`, `R = ε² Σw`: `D (w d²) = w (D d²) ≤ w (C R) = (w C) R ≤ D R` by noise
  -- propagation at the node and leverage; `D > 0`
  refine le_of_mul_le_mul_left ?_ hD
  rw [mul_left_comm]
  refine (mul_le_mul_of_nonneg_left (noise_propagation l hw z al be eps hn z' al' be' hN o.i o.j) (hw o ho)).trans ?_
  rw [← mul_assoc]
  exact mul_le_mul_of_nonneg_right (leverage_le l hw o ho) hR

/-- adding peaks (non-negative weights) never lowers the rank of the design -/
theorem rank_monotone {l l' : List Obs} (h : l.Sublist l') (hw : ∀ p ∈ l', 0 ≤ p.w) :
    (normalOf l).det ≤ (normalOf l').det := det_mono_sublist h hw

/-- exact data are recovered exactly -/
theorem exact_recovery (l : List Obs) (z al be : ℚ) (hres : ∀ o ∈ l, resid z al be o = 0)
    (hd : (normalOf l).det ≠ 0) : solveNormal (normalOf l) = some (z, al, be) := solve_exact l z al be hres hd

/-- non-vacuity of the noise bound: four nodes (weights 1, 2, 1, 1), noise +1/10, -1/10, +1/10, 0 on the
lattice (5, 3, -1); the fit is (71/14, 199/70, -33/35), which misses the far node (4, -3) by 51/70; the
bound `det · d² = 2601/700 ≤ 117/20 = vᵀ adj(N) v · ε² Σw` holds with ε = 1/10 -/
example :
    let l : List Obs := [⟨0, 0, 1, 5 + 1 / 10⟩, ⟨1, 0, 2, 8 - 1 / 10⟩, ⟨0, 1, 1, 4 + 1 / 10⟩, ⟨1, 1, 1, 7⟩]
    (∀ o ∈ l, 0 ≤ o.w) ∧ (∀ o ∈ l, |resid 5 3 (-1) o| ≤ 1 / 10) ∧ (normalOf l).det = 7 ∧
      solveNormal (normalOf l) = some (71 / 14, 199 / 70, -33 / 35) ∧
      (normalOf l).det * ((71 / 14 + 4 * (199 / 70) + (-3) * (-33 / 35)) - (5 + 4 * 3 + (-3) * (-1))) ^ 2 = 2601 / 700 ∧
      (normalOf l).adjq 1 4 (-3) * ((1 / 10) ^ 2 * (normalOf l).s1) = 117 / 20 := by
  decide +kernel

end C06
