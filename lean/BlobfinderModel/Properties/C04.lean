import BlobfinderModel.Properties.C03
import BlobfinderModel.Properties.C08
import BlobfinderModel.Properties.C13
import BlobfinderModel.Proofs.Pipeline
import BlobfinderModel.Proofs.Upsample
/-!
# C04 — results stay in the search window and are well-formed for arbitrary data
Proved: index / sign / finiteness *logic*.  Residual (A-FLOAT): finiteness of the FFT pipeline
itself for finite input.
-/
namespace C04
open Model

theorem shift_mem_window (v p c : ℤ) (hv : 0 ≤ v ∧ v < 2 * c) : p - c ≤ Gen.shift v p c ∧ Gen.shift v p c ≤ p + c - 1 := by
  unfold Gen.shift
  omega

/-- **The integer centre lies in `[peak − c, peak + c − 1]` on both axes**: the argmax index of a
`2c × 2c` window, unravelled and re-anchored with the generated `_shift`. -/
theorem center_in_window (c peak0 peak1 : ℤ) (idx : ℤ) (hc : 1 ≤ c) (hidx : 0 ≤ idx ∧ idx < (2 * c) * (2 * c)) :
    let cy := idx / (2 * c)
    let cx := idx % (2 * c)
    peak0 - c ≤ Gen.shift cy peak0 c ∧ Gen.shift cy peak0 c ≤ peak0 + c - 1 ∧
    peak1 - c ≤ Gen.shift cx peak1 c ∧ Gen.shift cx peak1 c ≤ peak1 + c - 1 := by
  have h2c : 0 < 2 * c := by omega
  have hy := shift_mem_window _ peak0 c ⟨Int.ediv_nonneg hidx.1 h2c.le, Int.ediv_lt_of_lt_mul h2c hidx.2⟩
  have hx := shift_mem_window _ peak1 c (emod_mem idx _ h2c)
  exact ⟨hy.1, hy.2, hx.1, hx.2⟩

/-- two's-complement / modular storage of an integer in a 16 bit array element -/
def wrapInt16 (v : ℤ) : ℤ := (v + 2 ^ 15) % 2 ^ 16 - 2 ^ 15
/-- storage of an integer in an unsigned 16 bit array element -/
def wrapUInt16 (v : ℤ) : ℤ := v % 2 ^ 16

/-- … in which every value of magnitude below 2¹⁵ is stored as itself (no wrap-around) -/
theorem center_no_wrap (v : ℤ) (h : -2 ^ 15 ≤ v ∧ v < 2 ^ 15) : wrapInt16 v = v := by
  unfold wrapInt16
  rw [Int.emod_eq_of_lt (by omega) (by omega), add_sub_cancel_right]

/-- Defect D2 (pre-repair `uint16`): the centre −10 was returned as 65526 -/
theorem uint16_prefix_counterexample : wrapUInt16 (-10) = 65526 ∧ wrapInt16 (-10) = -10 := by decide

/-- Defect D19 (pre-repair): the slicing back-end computed the window origin `y + peak - crop_size` in the dtype of the
peak array; for an unsigned 32-bit position 3 and crop size 7 the origin −4 became 4294967292.  For every unsigned width the
origin of a window that starts above / left of the frame (`peak < crop_size`) is not representable, while the signed 64-bit
arithmetic of the per-pixel kernel and the Python integers of the repaired code hold it exactly. -/
theorem unsigned_origin_counterexample : (0 + 3 - 7 : ℤ) % 2 ^ 32 = 4294967292 ∧ (0 + 3 - 7 : ℤ) = -4 := by decide

theorem unsigned_origin_wraps (bits : ℕ) (peak c : ℤ) (hlt : peak < c) :
    (0 + peak - c) % 2 ^ bits ≠ 0 + peak - c := by
  intro h
  have hpos : (0 : ℤ) < 2 ^ bits := Int.pow_pos (by decide)
  have := Int.emod_nonneg (0 + peak - c) (Int.ne_of_gt hpos)
  omega

theorem cutout_nonneg (cut : ℤ → ℤ → ℚ) (n m y x : ℤ) (hy : 0 ≤ y ∧ y < n) (hx : 0 ≤ x ∧ x < m) :
    0 ≤ cut y x - minList (flat cut n m) :=
  sub_nonneg.mpr (minList_le _ _ ((mem_flat cut n m _).mpr ⟨y, x, hy, hx, rfl⟩))

/-- stated for size `N + 1` so that the bound is the integer `N`; `refineAt_within` passes `N = 2 * r` -/
theorem cutoutCom_mem (cut : ℤ → ℤ → ℚ) (N : ℤ)
    (hs : 0 < lsum (flat (fun y x => cut y x - minList (flat cut (N + 1) (N + 1))) (N + 1) (N + 1))) :
    (0 ≤ (cutoutCom cut (N + 1)).1 ∧ (cutoutCom cut (N + 1)).1 ≤ (N : ℚ)) ∧
    0 ≤ (cutoutCom cut (N + 1)).2 ∧ (cutoutCom cut (N + 1)).2 ≤ (N : ℚ) := by
  have hw := fun y x hy0 hy1 hx0 hx1 => cutout_nonneg cut (N + 1) (N + 1) y x ⟨hy0, hy1⟩ ⟨hx0, hx1⟩
  have hb : ∀ t : ℤ, 0 ≤ t → t < N + 1 → (0 : ℚ) ≤ t ∧ (t : ℚ) ≤ N := fun t h0 h1 =>
    ⟨Int.cast_nonneg h0, by exact_mod_cast Int.lt_add_one_iff.mp h1⟩
  exact ⟨flat_mean_mem _ (fun y _ => (y : ℚ)) _ _ 0 N hw (fun y _ h0 h1 _ _ => hb y h0 h1) hs,
    flat_mean_mem _ (fun _ x => (x : ℚ)) _ _ 0 N hw (fun _ x _ _ h0 h1 => hb x h0 h1) hs⟩

theorem abs_recentred_le (c r com : ℚ) (h0 : 0 ≤ com) (h1 : com ≤ 2 * r) : |c + com - r - c| ≤ r := by
  rw [abs_le]
  constructor <;> linarith

/-- **the refined position is within `r ≤ 2` px of the integer centre** (per axis): with
`com ∈ [0, 2r]`, `refined = c + com − r ∈ [c − r, c + r]` -/
theorem refine_within_r (c r : ℤ) (com : ℚ) (hr : 0 ≤ r ∧ r ≤ 2) (hcom : 0 ≤ com ∧ com ≤ (2 * r + 1 : ℤ) - 1) :
    |Model.refined_coord c com r - (c : ℚ)| ≤ (r : ℚ) ∧ (r : ℚ) ≤ 2 := by
  rw [C03.refined_formula]
  have e : ((2 * r + 1 : ℤ) : ℚ) - 1 = 2 * (r : ℚ) := by
    push_cast
    ring
  exact ⟨abs_recentred_le _ _ _ hcom.1 (hcom.2.trans_eq e), by exact_mod_cast hr.2⟩

/-- **no 0/0 in the centre of mass**: if the cut-out contains a value strictly smaller than its
centre value (true whenever `r ≥ 1`, because the centre is the *first* maximum and the cut-out's
first cell precedes it in row-major order), the min-subtracted total is positive -/
theorem com_total_pos (cut : ℤ → ℤ → ℚ) (n m cy cx y0 x0 : ℤ)
    (hc : (0 ≤ cy ∧ cy < n) ∧ (0 ≤ cx ∧ cx < m)) (h0 : (0 ≤ y0 ∧ y0 < n) ∧ (0 ≤ x0 ∧ x0 < m))
    (hlt : cut y0 x0 < cut cy cx) :
    0 < lsum (flat (fun y x => cut y x - minList (flat cut n m)) n m) := by
  -- all terms are non-negative and the one at the centre is positive
  rw [lsum_eq_sum]
  refine lt_of_lt_of_le ?_ (List.single_le_sum (fun v hv => ?_) _ ((mem_flat _ n m _).mpr ⟨cy, cx, hc.1, hc.2, rfl⟩))
  · exact sub_pos.mpr ((minList_le _ _ ((mem_flat cut n m _).mpr ⟨y0, x0, h0.1, h0.2, rfl⟩)).trans_lt hlt)
  · obtain ⟨y, x, hy, hx, rfl⟩ := (mem_flat _ n m v).mp hv
    exact cutout_nonneg cut n m y x hy hx

theorem refineAt_within (corr : ℤ → ℤ → ℚ) (cy cx r : ℤ) (hr : 0 ≤ r)
    (hlt : 0 < r → corr (cy - r) (cx - r) < corr cy cx) :
    |(refineAt corr cy cx r).1 - (cy : ℚ)| ≤ (r : ℚ) ∧ |(refineAt corr cy cx r).2 - (cx : ℚ)| ≤ (r : ℚ) := by
  have hr' : (0 : ℚ) ≤ r := Int.cast_nonneg hr
  unfold refineAt
  split
  next =>
    rw [sub_self, sub_self, abs_zero]
    exact ⟨hr', hr'⟩
  next hpos =>
    -- the cut-out's first cell `(0, 0)` is smaller than its centre cell `(r, r)`, so the total is positive
    have h00 : corr (cy - r + 0) (cx - r + 0) < corr (cy - r + r) (cx - r + r) := by
      simp only [sub_add_cancel, add_zero]
      exact hlt (not_le.mp hpos)
    have hs := com_total_pos (fun y x => corr (cy - r + y) (cx - r + x)) (2 * r + 1) (2 * r + 1) r r 0 0 (by omega) (by omega) h00
    obtain ⟨⟨h1, h2⟩, h3, h4⟩ := cutoutCom_mem _ (2 * r) hs
    push_cast at h2 h4
    exact ⟨abs_recentred_le _ _ _ h1 h2, abs_recentred_le _ _ _ h3 h4⟩

/-- `hfirst` is what a first maximum in row-major order gives -/
theorem refineCenter_within (corr : ℤ → ℤ → ℚ) (h w cy cx radius : ℤ) (hy : 0 ≤ cy ∧ cy < h) (hx : 0 ≤ cx ∧ cx < w)
    (hrad : 0 ≤ radius)
    (hfirst : ∀ y x : ℤ, 0 ≤ y → y < h → 0 ≤ x → x < w → y < cy → corr y x < corr cy cx) :
    |(refineCenter corr h w cy cx radius).1 - (cy : ℚ)| ≤ (radius : ℚ) ∧
    |(refineCenter corr h w cy cx radius).2 - (cx : ℚ)| ≤ (radius : ℚ) := by
  rw [refineCenter_eq]
  obtain ⟨h1, h2, h3, -, -⟩ := (le_refine_r_iff _ radius cy cx h w).mp le_rfl
  have h0 : 0 ≤ refine_r radius cy cx h w := (le_refine_r_iff 0 radius cy cx h w).mpr
    ⟨hrad, hy.1, hx.1, by omega, by omega⟩
  have hq : ((refine_r radius cy cx h w : ℤ) : ℚ) ≤ (radius : ℚ) := Int.cast_le.mpr h1
  -- for a clipped radius `r > 0` the cell `(cy - r, cx - r)` is in the map and in a row above the centre
  have := refineAt_within corr cy cx _ h0 fun hpos =>
    hfirst _ _ (by omega) (by omega) (by omega) (by omega) (by omega)
  exact ⟨this.1.trans hq, this.2.trans hq⟩

/-- **C04 at the model level, no hypotheses on the data: for every correlation map of every size the
refined position returned by the evaluation is within 2 px of the integer centre on both axes**
(the centre is the first maximum ⇒ the min-subtracted cut-out has positive total ⇒ the centre of
mass exists and lies in the cut-out). -/
theorem evaluate_refined_within (corr : ℤ → ℤ → ℚ) (h w : ℤ) (hh : 0 < h) (hw : 0 < w) :
    |(evaluate corr h w).ry - ((evaluate corr h w).cy : ℚ)| ≤ 2 ∧
    |(evaluate corr h w).rx - ((evaluate corr h w).cx : ℚ)| ≤ 2 := by
  obtain ⟨⟨hcy, hcx, -⟩, hfirst⟩ := evaluate_center corr h w hh hw
  refine refineCenter_within corr h w _ _ Model.refine_radius hcy hcx (by decide)
    fun y x hy0 hy1 hx0 hx1 hlt => hfirst y x hy0 hy1 hx0 hx1 ?_
  -- a cell in a row above the centre precedes it in row-major order
  calc y * w + x < y * w + w := Int.add_lt_add_left hx1 _
    _ = (y + 1) * w := by ring
    _ ≤ (evaluate corr h w).cy * w := Int.mul_le_mul_of_nonneg_right (Int.add_one_le_of_lt hlt) hw.le
    _ ≤ (evaluate corr h w).cy * w + (evaluate corr h w).cx := Int.le_add_of_nonneg_right hcx.1

/-! ### The pipelines composed end to end (model level)

`Model.fastPeak` / `Model.fullPeak` compose the stage models — crop (generated cell logic), log
scaling (generated argument), correlation map (direct circular sum with the generated shift kind),
evaluation kernels, re-anchoring (generated `_shift`) — and `Model.processFrameFast/Full` run them
through the generated block arithmetic.  The theorems below are statements about *these composed
functions* for every frame, mask, peak list, crop size and buffer count. -/

/-- what the crop-based method takes the logarithm of: window value − window minimum + 1 -/
theorem logCrop_def (L : ℚ → ℚ) (crop : ℤ → ℤ → ℚ) (h w y x : ℤ) :
    logCrop L crop h w y x = L (crop y x - minList (flat crop h w) + 1) := rfl

/-- what the full-frame method takes the logarithm of: pixel − frame minimum + 1 -/
theorem logFrame_def (L : ℚ → ℚ) (frame : ℤ → ℤ → ℚ) (fy fx y x : ℤ) :
    logFrame L frame fy fx y x = L (frame y x - minList (flat frame fy fx) + 1) := rfl

/-- **the correlation map of a window is the circular correlation of the log-scaled window with the
mask whose pixel `c = shape // 2` sits on the evaluated position**: entry `(y, x)` sums
`mask[my, mx] · data[(y + c − my) mod 2c, (x + c − mx) mod 2c]` -/
theorem fastCorr_def (L : ℚ → ℚ) (mask frame : ℤ → ℤ → ℚ) (fy fx c : ℤ) (hc : 0 < c) (p : ℤ × ℤ) (y x : ℤ) :
    fastCorr L mask frame fy fx c p y x
      = lsum ((irange (2 * c)).map fun my => lsum ((irange (2 * c)).map fun mx =>
          mask my mx *
            logCrop L (fun yy xx => window frame fy fx (p.1 - c + yy) (p.2 - c + xx)) (2 * c) (2 * c)
              ((y + c - my) % (2 * c)) ((x + c - mx) % (2 * c)))) := by
  unfold fastCorr corrMap
  rw [Gen.fast_corr_shift, shiftSrc_ifftshift, shiftSrc_ifftshift, Int.mul_ediv_cancel_left c (by decide)]
  simp only [C13.cropPixel_eq_window, Int.emod_sub_emod]

/-- the common content of `fastPeak_spec` and `fullPeak_spec` -/
theorem reanchor_evaluate_spec (corr : ℤ → ℤ → ℚ) (c : ℤ) (hc : 0 < c) (p0 p1 : ℤ) :
    let e := reanchor (evaluate corr (2 * c) (2 * c)) p0 p1 c
    (p0 - c ≤ e.cy ∧ e.cy ≤ p0 + c - 1) ∧ (p1 - c ≤ e.cx ∧ e.cx ≤ p1 + c - 1) ∧
    e.height = corr (e.cy - p0 + c) (e.cx - p1 + c) ∧
    (∀ y x : ℤ, 0 ≤ y → y < 2 * c → 0 ≤ x → x < 2 * c → corr y x ≤ e.height) ∧
    |e.ry - (e.cy : ℚ)| ≤ 2 ∧ |e.rx - (e.cx : ℚ)| ≤ 2 := by
  have h2c : 0 < 2 * c := Int.mul_pos (by decide) hc
  obtain ⟨hcy, hcx, hmax⟩ := evaluate_isMaxAt corr (2 * c) (2 * c) h2c h2c
  have hwithin := evaluate_refined_within corr (2 * c) (2 * c) h2c h2c
  rw [← reanchor_ry_sub_cy _ p0 p1 c, ← reanchor_rx_sub_cx _ p0 p1 c] at hwithin
  refine ⟨shift_mem_window _ p0 c hcy, shift_mem_window _ p1 c hcx, ?_, hmax, hwithin⟩
  -- `e.cy - p0 + c` is `_unshift` of the re-anchored centre
  rw [reanchor_height, evaluate_height]
  exact (congrArg₂ corr (C03.shift_unshift _ p0 c).2 (C03.shift_unshift _ p1 c).2).symm

/-- **C03 + C04 for one peak of the crop-based method, every input**: the reported centre lies in
`[peak − c, peak + c − 1]²`; the reported height is the value of the window's correlation map at
that centre and no value of the map exceeds it; the refined position is within 2 px of the centre. -/
theorem fastPeak_spec (L : ℚ → ℚ) (mask frame : ℤ → ℤ → ℚ) (fy fx : ℤ) (c : ℕ) (hc : 0 < c) (p : ℤ × ℤ) :
    let e := fastPeak L mask frame fy fx c p
    let corr := fastCorr L mask frame fy fx c p
    (p.1 - c ≤ e.cy ∧ e.cy ≤ p.1 + c - 1) ∧ (p.2 - c ≤ e.cx ∧ e.cx ≤ p.2 + c - 1) ∧
    e.height = corr (e.cy - p.1 + c) (e.cx - p.2 + c) ∧
    (∀ y x : ℤ, 0 ≤ y → y < 2 * c → 0 ≤ x → x < 2 * c → corr y x ≤ e.height) ∧
    |e.ry - (e.cy : ℚ)| ≤ 2 ∧ |e.rx - (e.cx : ℚ)| ≤ 2 :=
  reanchor_evaluate_spec (fastCorr L mask frame fy fx c p) c (Int.natCast_pos.mpr hc) p.1 p.2

/-- **the same for one peak of the full-frame method**: the window is cut out of the frame-sized
correlation map (zero outside the frame), the centre is in the window, the height is the window's
maximum, attained at the centre -/
theorem fullPeak_spec (L : ℚ → ℚ) (mask frame : ℤ → ℤ → ℚ) (fy fx : ℤ) (c : ℕ) (hc : 0 < c) (p : ℤ × ℤ) :
    let e := fullPeak L mask frame fy fx c p
    let win : ℤ → ℤ → ℚ := fun y x => window (fullCorr L mask frame fy fx) fy fx (p.1 - c + y) (p.2 - c + x)
    (p.1 - c ≤ e.cy ∧ e.cy ≤ p.1 + c - 1) ∧ (p.2 - c ≤ e.cx ∧ e.cx ≤ p.2 + c - 1) ∧
    e.height = window (fullCorr L mask frame fy fx) fy fx e.cy e.cx ∧
    (∀ y x : ℤ, 0 ≤ y → y < 2 * c → 0 ≤ x → x < 2 * c → win y x ≤ e.height) ∧
    |e.ry - (e.cy : ℚ)| ≤ 2 ∧ |e.rx - (e.cx : ℚ)| ≤ 2 := by
  intro e win
  have hwin : (fun y x => cropPixel (fullCorr L mask frame fy fx) fy fx c p.1 p.2 y x) = win :=
    funext₂ fun _ _ => C13.cropPixel_eq_window ..
  have he : e = reanchor (evaluate win (2 * c) (2 * c)) p.1 p.2 c := by rw [← hwin]; rfl
  obtain ⟨h1, h2, h3, h4, h5⟩ := reanchor_evaluate_spec win c (Int.natCast_pos.mpr hc) p.1 p.2
  rw [← he] at h1 h2 h3 h4 h5
  exact ⟨h1, h2, h3.trans (congrArg₂ (window _ fy fx) (by ring) (by ring)), h4, h5⟩

/-- **every output entry of a frame is filled with the result for its own peak, for every buffer
count, both pipelines** (composition with the block-loop theorems of C08); entries beyond the peak
list are left as they were -/
theorem process_frame_fills_outputs (L : ℚ → ℚ) (mask frame : ℤ → ℤ → ℚ) (fy fx c : ℤ)
    (peaks : ℤ → ℤ × ℤ) (n b : ℤ) (hn : 0 ≤ n) (hb : 0 < b) (out : ℤ → EvalOut) (i : ℤ) :
    processFrameFast L mask frame fy fx c peaks n b out i
      = (if 0 ≤ i ∧ i < n then fastPeak L mask frame fy fx c (peaks i) else out i) ∧
    processFrameFull L mask frame fy fx c peaks n b out i
      = (if 0 ≤ i ∧ i < n then fullPeak L mask frame fy fx c (peaks i) else out i) :=
  ⟨C08.fast_runBlocks_spec _ peaks n b hn hb out i, C08.full_runBlocks_spec _ peaks n b hn hb out i⟩

/-- **C08 for the composed pipelines**: the result stored for a peak is the same for every buffer
count, and permuting the peak list permutes the results (both pipelines) -/
theorem process_frame_buffer_and_order_irrelevant (L : ℚ → ℚ) (mask frame : ℤ → ℤ → ℚ) (fy fx c : ℤ)
    (peaks : ℤ → ℤ × ℤ) (σ : ℤ → ℤ) (n b b' : ℤ) (hn : 0 ≤ n) (hb : 0 < b) (hb' : 0 < b') (out : ℤ → EvalOut)
    (i : ℤ) (hi : 0 ≤ i ∧ i < n) :
    processFrameFast L mask frame fy fx c peaks n b out i = processFrameFast L mask frame fy fx c peaks n b' out i ∧
    processFrameFull L mask frame fy fx c peaks n b out i = processFrameFull L mask frame fy fx c peaks n b' out i ∧
    processFrameFast L mask frame fy fx c (fun k => peaks (σ k)) n b out i = fastPeak L mask frame fy fx c (peaks (σ i)) ∧
    processFrameFull L mask frame fy fx c (fun k => peaks (σ k)) n b out i = fullPeak L mask frame fy fx c (peaks (σ i)) := by
  have h1 := process_frame_fills_outputs L mask frame fy fx c peaks n b hn hb out i
  have h2 := process_frame_fills_outputs L mask frame fy fx c peaks n b' hn hb' out i
  have h3 := process_frame_fills_outputs L mask frame fy fx c (fun k => peaks (σ k)) n b hn hb out i
  simp only [if_pos hi] at h1 h2 h3
  exact ⟨h1.1.trans h2.1.symm, h1.2.trans h2.2.symm, h3.1, h3.2⟩

/-- non-vacuity: the composed crop-based pipeline evaluated on a concrete 4×4 frame, `c = 1`,
identity in place of the logarithm, 2×2 mask, two peaks (one overlapping the border), buffer of 1 -/
example :
    let frame : ℤ → ℤ → ℚ := fun y x => if y = 1 ∧ x = 2 then 9 else 1
    let mask : ℤ → ℤ → ℚ := fun y x => if y = 1 ∧ x = 1 then 1 else 0
    let peaks : ℤ → ℤ × ℤ := fun i => if i = 0 then (1, 2) else (0, 0)
    let out := processFrameFast id mask frame 4 4 1 peaks 2 1 (fun _ => ⟨0, 0, 0, 0, 0, none⟩)
    ((out 0).cy, (out 0).cx, (out 0).height) = (1, 2, 9) ∧ ((out 1).cy, (out 1).cx) = (0, 0) := by
  decide +kernel

/-- slopes `(height − v)/d` are compared through their squares; squares of slopes are ≥ 0 and the
reported elevation is `max(0, ·)` of the smallest slope, hence never negative -/
theorem elev_nonneg (height v d2 : ℚ) (hd : 0 < d2) : 0 ≤ (height - v) ^ 2 / d2 ∧
    (∀ o : Option ℚ, ∀ v', optMax0 o = some v' → 0 ≤ v') := by
  refine ⟨div_nonneg (sq_nonneg _) (le_of_lt hd), ?_⟩
  intro o v' h
  cases o with
  | none => cases h
  | some u =>
    simp only [optMax0, Option.some.injEq] at h
    rw [← h, rmax_eq_max]
    exact le_max_left 0 u

theorem rmin_sq_le (d : ℚ) (hd : Model.elev_rmin ≤ |d|) : Model.elev_rmin * Model.elev_rmin ≤ d ^ 2 := by
  rw [← sq_abs d, sq]
  exact mul_self_le_mul_self (by unfold Model.elev_rmin; norm_num) hd

theorem exists_far_row (h : ℤ) (hh : 4 ≤ h) (py : ℚ) :
    ∃ y : ℤ, (0 ≤ y ∧ y < h) ∧ Model.elev_rmin * Model.elev_rmin ≤ ((y : ℚ) - py) ^ 2 := by
  -- row 0 or row 3, whichever is on the far side of 3/2 from the position
  rcases le_total (3 / 2) py with hp | hp
  · refine ⟨0, ⟨by omega, by omega⟩, rmin_sq_le _ (le_trans ?_ (neg_le_abs _))⟩
    rw [Model.elev_rmin]
    push_cast
    linarith
  · refine ⟨3, ⟨by omega, by omega⟩, rmin_sq_le _ (le_trans ?_ (le_abs_self _))⟩
    rw [Model.elev_rmin]
    push_cast
    linarith

/-- **the elevation is finite**: a map with at least 4 rows has, for every position inside it, a row
at distance ≥ 1.5 = `r_min` (so the minimum over pixels is taken over a non-empty set) -/
theorem elev_domain_nonempty (h : ℤ) (py : ℚ) (hh : 4 ≤ h) (hp : 0 ≤ py ∧ py ≤ (h : ℚ) - 1) :
    ∃ y : ℤ, (0 ≤ y ∧ y < h) ∧ Model.elev_rmin * Model.elev_rmin ≤ ((y : ℚ) - py) ^ 2 :=
  exists_far_row h hh py

/-- the passage to ℚ in `upsample_offset_bound` (`u` the factor, `x = k − dftshift`) -/
theorem abs_div_le_of_four_mul (u x : ℚ) (hu : 0 < u) (h : |4 * x| ≤ 3 * u + 2) : |x / u| ≤ 3 / 4 + 1 / (2 * u) := by
  have h4 : (0 : ℚ) < 4 := by norm_num
  rw [abs_mul, abs_of_pos h4, ← le_div_iff₀' h4] at h
  rw [abs_div, abs_of_pos hu, div_le_iff₀ hu]
  refine h.trans_eq ?_
  field_simp
  ring

/-- **upsampling: every candidate offset `(k − dftshift)/us`, `0 ≤ k < region`, has modulus
≤ 0.75 + 0.5/us** (the refined position moves at most that far from the integer centre) -/
theorem upsample_offset_bound (us k : ℤ) (hus : 1 ≤ us)
    (hk : 0 ≤ k ∧ k < Gen.us_region us) :
    |((k - Gen.us_dftshift (Gen.us_region us) : ℤ) : ℚ) / (us : ℚ)| ≤ 3 / 4 + 1 / (2 * (us : ℚ)) := by
  -- in integers: `region = ⌈3us/2⌉`, `dftshift = region / 2`, so `|4 (k − dftshift)| ≤ 3 us + 2` for `0 ≤ k < region`
  rw [us_region_eq] at hk ⊢
  rw [us_dftshift_eq _ (by omega)]
  have h4 : |4 * (k - -(-(3 * us) / 2) / 2)| ≤ 3 * us + 2 := abs_le.mpr (by omega)
  exact abs_div_le_of_four_mul _ _ (Int.cast_pos.mpr (by omega)) (by exact_mod_cast h4)

/-- kernel index safety is inherited: cropping never reads or writes out of bounds (C13) and the
refinement cut-out stays inside the map (C03.refine_cut_in_bounds) -/
theorem kernels_in_bounds (y x h w : ℤ) (hy : 0 ≤ y ∧ y < h) (hx : 0 ≤ x ∧ x < w) :
    Model.refine_guard (Model.refine_r Model.refine_radius y x h w) = false →
      0 ≤ Model.cut_lo y (Model.refine_r Model.refine_radius y x h w) ∧
      Model.cut_hi y (Model.refine_r Model.refine_radius y x h w) ≤ h ∧
      0 ≤ Model.cut_lo x (Model.refine_r Model.refine_radius y x h w) ∧
      Model.cut_hi x (Model.refine_r Model.refine_radius y x h w) ≤ w := by
  intro hg
  have := (C03.refine_cut_in_bounds y x h w hy hx).2.2 hg
  exact ⟨this.1, this.2.1, this.2.2.1, this.2.2.2.1⟩

/-- **when the elevation is finite.**  In a window with at least 4 rows (crop size ≥ 2), whatever the refined position (inside
the window or not), some pixel is at distance ≥ 1.5 from it: the cone fit has a candidate and the elevation is a finite number -/
theorem elevation_finite_of_four_rows (corr : ℤ → ℤ → ℚ) (h w : ℤ) (hh : 4 ≤ h) (hw : 0 < w) (py px height : ℚ) :
    (elevation2 corr h w py px height).isSome = true := by
  obtain ⟨y, hy, hd⟩ := exists_far_row h hh py
  exact (elevation2_isSome corr h w py px height).mpr
    ⟨y, 0, hy, ⟨le_rfl, hw⟩, hd.trans (le_add_of_nonneg_right (sq_nonneg _))⟩

/-- ... and in a 2×2 window (crop size 1) no pixel is that far from a position inside the window: the elevation is `inf`
(`none`), for every map -/
theorem elevation_infinite_of_2x2 (corr : ℤ → ℤ → ℚ) (py px height : ℚ)
    (hpy : 0 ≤ py ∧ py ≤ 1) (hpx : 0 ≤ px ∧ px ≤ 1) : elevation2 corr 2 2 py px height = none := by
  -- every pixel is within 1 of the position on both axes, so the squared distance is at most 2 < 9/4
  have hsq : ∀ (t : ℤ) (p : ℚ), 0 ≤ t ∧ t < 2 → 0 ≤ p ∧ p ≤ 1 → ((t : ℚ) - p) ^ 2 ≤ 1 := fun t p ht hp =>
    (sq_le_one_iff_abs_le_one _).mpr (abs_sub_le_of_nonneg_of_le (Int.cast_nonneg ht.1)
      (by exact_mod_cast Int.lt_add_one_iff.mp ht.2) hp.1 hp.2)
  rw [← Option.not_isSome_iff_eq_none, elevation2_isSome]
  rintro ⟨y, x, hy, hx, hd⟩
  refine absurd (hd.trans (add_le_add (hsq y py hy hpy) (hsq x px hx hpx))) ?_
  unfold Model.elev_rmin
  norm_num

end C04
