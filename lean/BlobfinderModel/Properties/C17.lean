import BlobfinderModel.Proofs.Coords
import BlobfinderModel.Gen.Polar
import Mathlib.Analysis.SpecialFunctions.Complex.Arg
/-!
# C17 — lattice coordinate algebra is consistent
Vectors are `(y, x)` pairs of rationals; all statements hold for every zero point, all
non-parallel `a`, `b` (`det2 a b ≠ 0`), integer and fractional indices.
-/
namespace C17
open Model

theorem indices_of_coords (zero a b ij : V2) (hd : det2 a b ≠ 0) :
    getIndices zero a b (calcCoord zero a b ij) = some ij :=
  getIndices_calcCoord zero a b ij hd

/-- coordinates → indices → coordinates is the identity -/
theorem coords_of_indices (zero a b p ij : V2) (h : getIndices zero a b p = some ij) :
    calcCoord zero a b ij = p :=
  calcCoord_of_getIndices zero a b p ij h

/-- parallel (or zero) vectors are rejected instead of producing garbage -/
theorem singular_rejected (zero a b p : V2) (hd : det2 a b = 0) : getIndices zero a b p = none := by
  unfold getIndices; simp [hd]

/-- the frame test is the half-open interval `r ≤ p < frame_size - r` on both axes -/
theorem within_frame_iff (p : V2) (r fy fx : ℚ) :
    withinFrame p r fy fx = true ↔ (r ≤ p.1 ∧ p.1 < fy - r) ∧ (r ≤ p.2 ∧ p.2 < fx - r) := by
  unfold withinFrame Gen.within_axis
  simp only [Bool.and_eq_true, decide_eq_true_eq, ge_iff_le]

/-- the margin band `r ≤ p < f - r` of an axis is non-empty exactly when `2 r < f`: a margin of "half the axis" leaves room
as long as it is strictly less than half — for an odd axis `f = 2k + 1` and `k ≤ r < k + 1/2` the centre line is still inside
(no shortcut may declare the band empty from `r ≥ f // 2`) -/
theorem band_nonempty_iff (r f : ℚ) : (∃ p : ℚ, r ≤ p ∧ p < f - r) ↔ 2 * r < f := by
  rw [two_mul, ← lt_sub_iff_add_lt]
  exact ⟨fun ⟨_, h1, h2⟩ => h1.trans_lt h2, fun h => ⟨r, le_refl r, h⟩⟩

example : Gen.within_axis 16 16 33 = true ∧ (33 : ℤ) / 2 = 16 := by decide +kernel

/-- **`frame_peaks` returns exactly the index/coordinate pairs whose coordinate is in range, each
coordinate being `zero + i·a + j·b` for its own index** -/
theorem frame_peaks_spec (fy fx : ℚ) (zero a b : V2) (r : ℚ) (indices : List V2) (ij c : V2) :
    (ij, c) ∈ framePeaks fy fx zero a b r indices ↔
      ij ∈ indices ∧ c = calcCoord zero a b ij ∧
      (r ≤ c.1 ∧ c.1 < fy - r) ∧ (r ≤ c.2 ∧ c.2 < fx - r) := by
  unfold framePeaks
  rw [List.mem_filter, List.mem_map, within_frame_iff]
  constructor
  · rintro ⟨⟨x, hx, hxe⟩, hw⟩
    simp only [Prod.mk.injEq] at hxe
    obtain ⟨rfl, rfl⟩ := hxe
    exact ⟨hx, rfl, hw⟩
  · rintro ⟨hx, rfl, hw⟩
    exact ⟨⟨ij, hx, rfl⟩, hw⟩

/-- order and multiplicity are preserved: the result is the filtered input list -/
theorem frame_peaks_indices (fy fx : ℚ) (zero a b : V2) (r : ℚ) (indices : List V2) :
    (framePeaks fy fx zero a b r indices).map Prod.fst
      = indices.filter fun ij => withinFrame (calcCoord zero a b ij) r fy fx := by
  unfold framePeaks
  rw [List.filter_map, List.map_map]
  exact List.map_id _

/-- which index layout is taken for which array shape: `(2, n, m)` is the mgrid layout, `(n, 2)`
the list layout — in particular a `(2, 2)` list is a list —, identically in `regularize_indices`
and in `Match.calc_coords` -/
theorem layout_dispatch (ndim s0 s1 : ℤ) :
    (Gen.reg_is_mgrid ndim s0 s1 = true ↔ (ndim = 3 ∧ s0 = 2)) ∧
    (Gen.reg_is_list ndim s0 s1 = true ↔ (ndim = 2 ∧ s1 = 2)) ∧
    Gen.mc_is_mgrid ndim s0 s1 = Gen.reg_is_mgrid ndim s0 s1 ∧
    Gen.mc_is_list ndim s0 s1 = Gen.reg_is_list ndim s0 s1 := by
  unfold Gen.reg_is_mgrid Gen.reg_is_list Gen.mc_is_mgrid Gen.mc_is_list
  -- the two sides of each `↔` and `=` are then the same
  simp only [Bool.and_eq_true, decide_eq_true_eq, and_self]

/-- the mgrid layout enumerates exactly the grid nodes `(I r c, J r c)` -/
theorem mgrid_layout_mem (n m : ℕ) (I J : ℕ → ℕ → ℚ) (v : V2) :
    v ∈ mgridLayout n m I J ↔ ∃ r c, r < n ∧ c < m ∧ v = (I r c, J r c) := by
  unfold mgridLayout
  simp only [List.mem_flatMap, List.mem_map, List.mem_range]
  constructor
  · rintro ⟨c, hc, r, hr, rfl⟩; exact ⟨r, c, hr, hc, rfl⟩
  · rintro ⟨r, c, hr, hc, rfl⟩; exact ⟨c, hc, r, hr, rfl⟩

/-- dropping the zero order removes exactly index (0, 0) -/
theorem drop_zero_iff (zero a b : V2) (indices : List V2) (c : V2) :
    c ∈ matchCalcCoords zero a b indices true none 0 ↔
      ∃ ij ∈ indices, ij ≠ (0, 0) ∧ c = calcCoord zero a b ij := by
  unfold matchCalcCoords
  -- no frame filter; the index filter `i ≠ 0 ∨ j ≠ 0` is `(i, j) ≠ (0, 0)`
  simp only [List.mem_filter, List.mem_map, Bool.not_true, Bool.false_or, and_true, Bool.or_eq_true, bne_iff_ne, ne_eq,
    Prod.ext_iff, not_and_or, and_assoc, eq_comm (a := c)]

/-! ### polar / cartesian conversion (`make_polar`, `make_cartesian`)

The conversion functions are *generated* from the source over an abstract record of library
functions; here they are instantiated with the real `cos`, `sin`, the two-argument arctangent
(`arctan2 y x` = argument of `x + i y`) and the Euclidean norm. -/

/-- the real library functions -/
noncomputable def realTrig : Gen.Trig ℝ :=
  { cos := Real.cos, sin := Real.sin,
    arctan2 := fun y x => Complex.arg ⟨x, y⟩,
    norm2 := fun y x => Real.sqrt (y ^ 2 + x ^ 2) }

/-- the modulus of `x + iy` is the `norm2` field of `realTrig` (the Euclidean length of `(y, x)`; `Model.norm2`, on a `V2`, is its square) -/
theorem norm_mk (y x : ℝ) : ‖(⟨x, y⟩ : ℂ)‖ = Real.sqrt (y ^ 2 + x ^ 2) := by
  rw [Complex.norm_def, Complex.normSq_mk]
  congr 1; ring

/-- **cartesian → polar → cartesian is the identity, for every vector (including zero)** -/
theorem cartesian_of_polar (y x : ℝ) :
    Gen.cartesian_y realTrig (Gen.polar_r realTrig y x) (Gen.polar_phi realTrig y x) = y ∧
    Gen.cartesian_x realTrig (Gen.polar_r realTrig y x) (Gen.polar_phi realTrig y x) = x := by
  unfold Gen.cartesian_y Gen.cartesian_x Gen.polar_r Gen.polar_phi realTrig
  dsimp only
  rw [← norm_mk y x]
  constructor
  · rw [mul_comm]; exact Complex.norm_mul_sin_arg ⟨x, y⟩
  · rw [mul_comm]; exact Complex.norm_mul_cos_arg ⟨x, y⟩

/-- **polar → cartesian → polar is the identity for positive length and angle in (−π, π]** -/
theorem polar_of_cartesian (r phi : ℝ) (hr : 0 < r) (hphi : phi ∈ Set.Ioc (-Real.pi) Real.pi) :
    Gen.polar_r realTrig (Gen.cartesian_y realTrig r phi) (Gen.cartesian_x realTrig r phi) = r ∧
    Gen.polar_phi realTrig (Gen.cartesian_y realTrig r phi) (Gen.cartesian_x realTrig r phi) = phi := by
  unfold Gen.cartesian_y Gen.cartesian_x Gen.polar_r Gen.polar_phi realTrig
  dsimp only
  constructor
  · -- `√((sin φ · r)² + (cos φ · r)²) = √(r²) = r`
    rw [mul_pow, mul_pow, ← add_mul, Real.sin_sq_add_cos_sq, one_mul, Real.sqrt_sq hr.le]
  · have hz : (⟨Real.cos phi * r, Real.sin phi * r⟩ : ℂ) = (r : ℂ) * (Complex.cos phi + Complex.sin phi * Complex.I) := by
      rw [Complex.mk_eq_add_mul_I]
      push_cast
      ring
    rw [hz]
    exact Complex.arg_mul_cos_add_sin_mul_I hr hphi

/-- the order of the returned components is `(y, x)` resp. `(length, angle)`: the round trip of a
concrete vector (non-vacuity; `arctan2 1 0 = π/2`) -/
example : Gen.polar_phi realTrig 1 0 = Real.pi / 2 := by
  unfold Gen.polar_phi realTrig
  dsimp only
  have : (⟨0, 1⟩ : ℂ) = Complex.I := by apply Complex.ext <;> simp
  rw [this, Complex.arg_I]

/-- non-vacuity: a skewed lattice -/
example : getIndices (1, 2) (3, 1) (-1, 4) (calcCoord (1, 2) (3, 1) (-1, 4) (2, -3)) = some (2, -3) := by
  decide +kernel

end C17
