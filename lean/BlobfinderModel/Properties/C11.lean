import BlobfinderModel.Properties.C10
import BlobfinderModel.Properties.C17
/-!
# C11 — refinement and integration UDFs equal the library functions per frame  (partial)

Against the UDF protocol stand-in (A-LT).  Proved: schedule independence of the per-frame
refinement result (C10.sched_result: `postprocess` computes each frame's match from that frame's
correlation result only); the start zero handed to the matcher is `start_zero + zero_shift(frame)`
for absent, constant and per-frame zero shifts (repair of D11, source pinned); the refine wrapper
selects the lattice positions with margin `pattern.search` (C17) and dispatches exactly the
documented method names; the integration value is the sum of the frame over the mask centred on the
peak with zero outside the frame.  Matcher numerics inherit C05's residual.
-/
namespace C11
open Model

/-- the zero shift of a frame: none → (0,0); constant → that vector for every frame; AUX → per frame -/
theorem zero_shift_per_frame (v : V2) (pf : ℕ → V2) (f g : ℕ) :
    ZeroShift.none.get f = (0, 0) ∧ (ZeroShift.const v).get f = v ∧ (ZeroShift.const v).get f = (ZeroShift.const v).get g
      ∧ (ZeroShift.perFrame pf).get f = pf f := ⟨rfl, rfl, rfl, rfl⟩

/-- per-frame refinement results are independent of the partitioning (instance of C10.sched_result:
the refinement of a frame reads only that frame's correlation result and zero shift) -/
theorem refine_per_frame {ρ : Type} (refine : ℕ → ρ) (sched : List (List ℕ)) (res : ℕ → Option ρ) (f : ℕ)
    (hf : f ∈ sched.flatten) :
    runSchedule () (fun _ g => ((), refine g)) sched res f = some (refine f) := by
  rw [C10.sched_result () (fun _ g => ((), refine g)) (fun _ _ _ => rfl), if_pos hf]

/-- **which methods `run_refine` accepts**: exactly `fast`, `sparse`, `fullframe` × `fast`, `affine`;
everything else raises ValueError -/
theorem dispatch_total (s : String) :
    (Gen.dispatch_correlation s ≠ none ↔ (s = "fast" ∨ s = "sparse" ∨ s = "fullframe")) ∧
    (Gen.dispatch_match s ≠ none ↔ (s = "affine" ∨ s = "fast")) ∧
    Gen.dispatch_correlation "fast" = some "FastCorrelationUDF" ∧
    Gen.dispatch_correlation "sparse" = some "SparseCorrelationUDF" ∧
    Gen.dispatch_correlation "fullframe" = some "FullFrameCorrelationUDF" ∧
    Gen.dispatch_match "fast" = some "FastmatchMixin" ∧ Gen.dispatch_match "affine" = some "AffineMixin" := by
  refine ⟨?_, ?_, ?_⟩
  · unfold Gen.dispatch_correlation
    by_cases h1 : s = "fast"
    · simp [h1]
    by_cases h2 : s = "sparse"
    · simp [h2]
    by_cases h3 : s = "fullframe"
    · simp [h3]
    simp [h1, h2, h3]
  · unfold Gen.dispatch_match
    by_cases h1 : s = "affine"
    · simp [h1]
    by_cases h2 : s = "fast"
    · simp [h2]
    simp [h1, h2]
  · simp [Gen.dispatch_correlation, Gen.dispatch_match]

/-- the wrapper correlates exactly the lattice positions that keep a margin `r = pattern.search` from
the frame border, and returns their indices (C17.frame_peaks_spec with that margin) -/
theorem frame_peaks_margin (fy fx : ℚ) (zero a b : V2) (search : ℚ) (indices : List V2) (ij c : V2) :
    (ij, c) ∈ framePeaks fy fx zero a b search indices ↔
      ij ∈ indices ∧ c = calcCoord zero a b ij ∧
      (search ≤ c.1 ∧ c.1 < fy - search) ∧ (search ≤ c.2 ∧ c.2 < fx - search) :=
  C17.frame_peaks_spec fy fx zero a b search indices ij c

/-- **integration = sum of the frame over the mask centred on the peak, zero outside the frame**:
the crop of C13 times the `2c × 2c` mask (whose centre pixel `c = (2c)//2` sits on the peak) -/
theorem integration_eq_masked_sum (frame mask : ℤ → ℤ → ℚ) (fy fx c p0 p1 : ℤ) :
    lsum (flat (fun y x => cropPixel frame fy fx c p0 p1 y x * mask y x) (2 * c) (2 * c))
      = lsum (flat (fun y x => window frame fy fx (p0 - c + y) (p1 - c + x) * mask y x) (2 * c) (2 * c)) := by
  simp only [C13.cropPixel_eq_window]

/-- the mask centre `(2c)//2 = c` corresponds to the peak itself: window coordinate `p − c + c = p` -/
theorem integration_center (p c : ℤ) (hc : 0 ≤ c) : p - c + Gen.mask_center (2 * c) = p := by
  rw [C16.mask_center_floor]
  omega

end C11
